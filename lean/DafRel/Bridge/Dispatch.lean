/-
Bridge for the engine-method dispatch table (translator T-b, `Gen.dispatch` in Gen/Flags.lean); in a file of its own so
that a change to the engines' method resolution concerns only the properties that rely on it (C15).
-/
import DafRel.Gen.Flags

namespace DafRel.Bridge

/-- **Method resolution of the two engine classes** (re-read through the MRO of the live classes on this run): the
model's dispatch on the engine kind - `backtrack` does nothing for a SQL engine, `appendUnary` / `binaryApply` /
`transferTo` / `materialize` / `conformIn` run the base-class code for an iteration engine and the overriding code for a
SQL engine - stands for exactly this table; the base-class `backtrack_unary` hands the tree back (`return tree, False,
...`). -/
theorem dispatch_eq : Gen.dispatch =
    [("iteration.Engine", "backtrack_unary", "iteration._engine.Engine"),
     ("iteration.Engine", "append_unary", "_engine.Engine"),
     ("iteration.Engine", "append_binary", "_engine.Engine"),
     ("iteration.Engine", "transfer", "_engine.Engine"),
     ("iteration.Engine", "materialize", "_engine.Engine"),
     ("iteration.Engine", "conform", "_engine.Engine"),
     ("sql.Engine", "backtrack_unary", "_engine.Engine"),
     ("sql.Engine", "append_unary", "sql._engine.Engine"),
     ("sql.Engine", "append_binary", "sql._engine.Engine"),
     ("sql.Engine", "transfer", "sql._engine.Engine"),
     ("sql.Engine", "materialize", "sql._engine.Engine"),
     ("sql.Engine", "conform", "sql._engine.Engine"),
     ("_engine.Engine", "backtrack_unary:body", "return tree, False")] := by rfl

end DafRel.Bridge
