/-
Bridge lemmas: the definitions regenerated from the Python source (`Gen/Kernel.lean`) equal the
hand-written model functions the property theorems are stated over.  A semantic change of the
Python code changes the generated term and makes the corresponding lemma fail.
-/
import DafRel.Gen.Kernel
import DafRel.Model.Rel

namespace DafRel.Bridge

open DafRel.PyLite DafRel.Gen

/- Every PyLite primitive and the monad's `bind`/`pure` unfold in the bridge proofs, whichever of them a (re)translated
method happens to use: a rewrite of the Python that swaps `is None` for `is not None`, `<` for `>=`, or nests or
flattens conditionals keeps the lemmas below provable. -/
attribute [local simp] asInt arith add sub mul min2 max2 cmp lt le gt ge PyLite.eq ne isNone isNotNone truthy
  pyNot pyIf pyAnd pyOr bind2 bind Except.bind pure Except.pure

/-- `int | None` -/
def optN : Option Nat → PyV
  | none => .none
  | some n => .int n

def optI : Option Int → PyV
  | none => .none
  | some n => .int n

/-- How a freshly built `Slice` object is represented. -/
def sliceObj (op : Except Err UOp) : PyM PyV :=
  match op with
  | .ok (.slice s e) => .ok (.obj "Slice" (.int s) (optN e))
  | .ok _ => .error (.other "not-a-slice")
  | .error _ => .error .valueError

attribute [local simp] optN optI sliceObj

/-- Python's `max(a - s, 0)` on integers is the truncated subtraction on the model's natural numbers. -/
theorem max_sub_zero (a s : Nat) : (if (a : Int) - s < 0 then (0 : Int) else a - s) = ((a - s : Nat) : Int) := by
  omega

/-- `min(a, b)` as `min2` computes it. -/
theorem min2_nat (a b : Nat) : (if b < a then (b : Int) else a) = ((min a b : Nat) : Int) := by
  omega

theorem Slice_new_eq (s : Int) (e : Option Int) :
    Slice_new (.int s) (optI e) = sliceObj (UOp.mkSlice s e) := by
  -- `__post_init__` and `mkSlice` make the same two tests; when both pass, `s` and `e` are natural numbers
  by_cases hs : s < 0
  · cases e <;> simp [Slice_new, Slice_post_init, UOp.mkSlice, hs]
  · cases e with
    | none =>
      simp [Slice_new, Slice_post_init, UOp.mkSlice, hs]
      omega
    | some e =>
      by_cases he : e < s <;> simp [Slice_new, Slice_post_init, UOp.mkSlice, hs, he]
      omega

theorem Slice_then_eq (s1 : Nat) (e1 : Option Nat) (s2 : Nat) (e2 : Option Nat) :
    Slice_then (.int s2) (optN e2) (.int s1) (optN e1) = sliceObj (UOp.sliceThen s1 e1 s2 e2) := by
  -- both sides end in the constructor call, which `Slice_new_eq` settles; what is left is that the four branches
  -- hand it the same two integers
  have hmin (x y : Int) : (if y < x then y else x) = min x y := by omega
  unfold UOp.sliceThen
  rw [← Slice_new_eq]
  cases e1 <;> cases e2 <;> simp [Slice_then, hmin] <;> split <;> rfl

theorem Slice_applied_min_rows_eq (s : Nat) (e : Option Nat) (tmin : Nat) :
    Slice_applied_min_rows (.int s) (optN e) (.int tmin)
      = .ok (.int ((UOp.slice s e).appliedMinRows tmin : Nat)) := by
  cases e <;> simp [Slice_applied_min_rows, UOp.appliedMinRows, min2_nat, max_sub_zero]

theorem Slice_applied_max_rows_eq (s : Nat) (e : Option Nat) (c : Cols) (tmax : Option Nat) :
    Slice_applied_max_rows (.int s) (optN e) (optN tmax)
      = .ok (optN ((UOp.slice s e).appliedMaxRows c tmax)) := by
  cases e <;> cases tmax <;> simp [Slice_applied_max_rows, UOp.appliedMaxRows, min2_nat, max_sub_zero]

theorem Deduplication_applied_min_rows_eq (tmin : Nat) :
    Deduplication_applied_min_rows (.int tmin) = .ok (.int (UOp.dedup.appliedMinRows tmin : Nat)) := by
  simp [Deduplication_applied_min_rows, UOp.appliedMinRows]
  grind

/-- `target.columns` enters only through its truthiness. -/
theorem Deduplication_applied_max_rows_eq (c : Cols) (tmax : Option Nat) :
    Deduplication_applied_max_rows (.bool (!c.isEmpty)) (optN tmax)
      = .ok (optN (UOp.dedup.appliedMaxRows c tmax)) := by
  cases tmax <;> cases hc : c.isEmpty <;>
    simp [Deduplication_applied_max_rows, UOp.appliedMaxRows, hc] <;>
    grind

theorem Chain_applied_min_rows_eq (a b : Nat) :
    Chain_applied_min_rows (.int a) (.int b) = .ok (.int (BOp.chainMinRows a b : Nat)) := by
  simp [Chain_applied_min_rows, BOp.chainMinRows]

theorem Chain_applied_max_rows_eq (a b : Option Nat) :
    Chain_applied_max_rows (optN a) (optN b) = .ok (optN (BOp.chainMaxRows a b)) := by
  cases a <;> cases b <;>
    simp [Chain_applied_max_rows, BOp.chainMaxRows]

theorem Join_applied_min_rows_eq : Join_applied_min_rows = .ok (.int 0) := rfl

theorem Join_applied_max_rows_eq (a b : Option Nat) :
    Join_applied_max_rows (optN a) (optN b) = .ok (optN (JoinOp.appliedMaxRows a b)) := by
  have pos (n : Nat) : ¬ ((n : Int) + 1 = 0) := by omega
  -- the code distinguishes `None`, `0` and anything else
  rcases a with _ | _ | a <;> rcases b with _ | _ | b <;>
    simp [Join_applied_max_rows, JoinOp.appliedMaxRows, pos]

theorem Selection_applied_min_rows_eq (p : Pred) (tmin : Nat) :
    Selection_applied_min_rows = .ok (.int ((UOp.sel p).appliedMinRows tmin : Nat)) := rfl

theorem passthrough_min_rows_eq (tmin : Nat) :
    Projection_applied_min_rows (.int tmin) = .ok (.int tmin) ∧
    Calculation_applied_min_rows (.int tmin) = .ok (.int tmin) ∧
    Reordering_applied_min_rows (.int tmin) = .ok (.int tmin) :=
  ⟨rfl, rfl, rfl⟩

theorem passthrough_max_rows_eq (tmax : Option Nat) :
    Reordering_applied_max_rows (optN tmax) = .ok (optN tmax) ∧
    UnaryOperation_applied_max_rows (optN tmax) = .ok (optN tmax) :=
  ⟨rfl, rfl⟩

theorem model_passthrough (tag : Tag) (e : Expr) (c : Cols) (ts : List SortTerm) (tmin : Nat) (tc : Cols)
    (tmax : Option Nat) :
    (UOp.calc tag e).appliedMinRows tmin = tmin ∧ (UOp.proj c).appliedMinRows tmin = tmin ∧
    (UOp.sort ts).appliedMinRows tmin = tmin ∧ UOp.identity.appliedMinRows tmin = tmin ∧
    (UOp.calc tag e).appliedMaxRows tc tmax = tmax ∧ (UOp.proj c).appliedMaxRows tc tmax = tmax ∧
    (UOp.sort ts).appliedMaxRows tc tmax = tmax ∧ (UOp.sel (.lit true)).appliedMaxRows tc tmax = tmax :=
  ⟨rfl, rfl, rfl, rfl, rfl, rfl, rfl, rfl⟩

theorem Relation_is_join_identity_eq (r : Rel) :
    Relation_is_join_identity (.bool (!r.columns.isEmpty)) (optN r.maxRows) (.int r.minRows)
      = .ok (.bool r.isJoinIdentity) := by
  have h1 : ∀ n : Nat, ((n : Int) = 1) = (n = 1) := by intro n; apply propext; omega
  cases hm : r.maxRows <;> cases hc : r.columns.isEmpty <;>
    simp [Relation_is_join_identity, Rel.isJoinIdentity, hm, hc, h1]
  rename_i val
  by_cases hv : val = 1 <;> simp [hv]
  cases hmn : (r.minRows == 1) <;> simp_all

theorem Relation_is_trivial_eq (r : Rel) :
    Relation_is_trivial (.bool r.isJoinIdentity) (optN r.maxRows) = .ok (.bool r.isTrivial) := by
  cases hm : r.maxRows <;> cases hj : r.isJoinIdentity <;>
    simp [Relation_is_trivial, Rel.isTrivial, hm, hj] <;>
    grind

end DafRel.Bridge
