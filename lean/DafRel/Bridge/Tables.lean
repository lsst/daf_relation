/-
Bridge lemmas for the regenerated constant tables: operation flags and `is_locked` (T-b), dataclass schema (T-c)
and the relation-name format (T-d).
-/
import DafRel.Gen.Flags
import DafRel.Gen.Schema
import DafRel.Gen.Names
import DafRel.Model.Rel

namespace DafRel.Bridge

theorem nameFormat_eq : Gen.nameFormat = Names.modelFormat := by rfl

/-- The counter is read into the name *before* it is incremented, by exactly one. -/
theorem nameSteps_eq : Gen.nameSteps = ["format", "increment", "return"] ∧ Gen.nameIncrement = 1 := by
  exact ⟨rfl, rfl⟩

private def tg : Tag := ⟨"t", true⟩

/-- One representative operation per class (the flag functions ignore the parameters, see
`flags_parameter_independent`). -/
def representatives : List (String × UOp) :=
  [("Calculation", .calc tg (.ref tg)), ("Deduplication", .dedup), ("Identity", .identity),
   ("Projection", .proj []), ("Selection", .sel (.lit true)), ("Slice", .slice 0 none), ("Sort", .sort [])]

def modelFlags : List (String × String × Bool) :=
  (representatives.flatMap (fun (n, op) =>
    [(n, "is_empty_invariant", op.isEmptyInvariant), (n, "is_count_invariant", op.isCountInvariant),
     (n, "is_order_dependent", op.isOrderDependent), (n, "is_count_dependent", op.isCountDependent)])) ++
  [("PartialJoin", "is_empty_invariant", false), ("PartialJoin", "is_count_invariant", false),
   ("PartialJoin", "is_order_dependent", false), ("PartialJoin", "is_count_dependent", false)]

theorem flags_eq : Gen.flags = modelFlags := by rfl

theorem flags_parameter_independent :
    (∀ t e, (UOp.calc t e).isEmptyInvariant = true ∧ (UOp.calc t e).isCountInvariant = true ∧
            (UOp.calc t e).isOrderDependent = false ∧ (UOp.calc t e).isCountDependent = false) ∧
    (∀ c, (UOp.proj c).isEmptyInvariant = true ∧ (UOp.proj c).isCountInvariant = true ∧
          (UOp.proj c).isOrderDependent = false ∧ (UOp.proj c).isCountDependent = false) ∧
    (∀ p, (UOp.sel p).isEmptyInvariant = false ∧ (UOp.sel p).isCountInvariant = false ∧
          (UOp.sel p).isOrderDependent = false ∧ (UOp.sel p).isCountDependent = false) ∧
    (∀ s e, (UOp.slice s e).isEmptyInvariant = false ∧ (UOp.slice s e).isCountInvariant = false ∧
            (UOp.slice s e).isOrderDependent = true ∧ (UOp.slice s e).isCountDependent = true) ∧
    (∀ ts, (UOp.sort ts).isEmptyInvariant = true ∧ (UOp.sort ts).isCountInvariant = true ∧
           (UOp.sort ts).isOrderDependent = false ∧ (UOp.sort ts).isCountDependent = false) :=
  ⟨fun _ _ => ⟨rfl, rfl, rfl, rfl⟩, fun _ => ⟨rfl, rfl, rfl, rfl⟩, fun _ => ⟨rfl, rfl, rfl, rfl⟩,
   fun _ _ => ⟨rfl, rfl, rfl, rfl⟩, fun _ => ⟨rfl, rfl, rfl, rfl⟩⟩

/-- `is_locked`: exactly leaves and materializations. -/
theorem locked_eq : Gen.locked =
    [("LeafRelation", true), ("UnaryOperationRelation", false), ("BinaryOperationRelation", false),
     ("Materialization", true), ("Transfer", false), ("Select", false)] := by rfl

theorem model_isLocked (r : Rel) : r.isLocked = (match r with
    | .leaf .. => true
    | .mat .. => true
    | _ => false) := by
  cases r <;> rfl

/-- Python's dataclass rule: `eq=True, frozen=True` generates `__hash__` from the compared
fields; such an instance is hashable iff all compared field values are.  A field declared as an
immutable builtin ("hashable") qualifies, a `list` ("sequence") or mutable `set` does not; every
other declared type is "object" (`harness/extract.py: field_category`) and is accepted unexamined:
another dataclass of this table, but also an engine, a tag, or `Any`. -/
def classHashable (row : String × Bool × Bool × String × List (String × String)) : Bool :=
  row.2.1 && row.2.2.1 && row.2.2.2.1 == "fieldhash" &&
    row.2.2.2.2.all (fun f => f.2 == "hashable" || f.2 == "object")

theorem all_node_classes_hashable : Gen.schema.all classHashable = true := by decide +kernel

end DafRel.Bridge
