/-
Bridge lemma for translator T-f, `sql.Select.apply_skip` (Gen/SqlOps.lean); a file of its own so that it concerns only
the property that exports it (C17).
-/
import DafRel.Gen.SqlOps
import DafRel.Lemmas.ApplySkipEqns

namespace DafRel.Bridge

open DafRel

theorem Select_apply_skip_eq (skipTo : Rel) (sl : Slots) : Gen.Select_apply_skip skipTo sl = applySkip skipTo sl := by
  first
  | -- the generated nested `match`es are `>>=` unfolded, and its `if`s are `optStep` unfolded
    rw [applySkip_eq]
    rfl
  | unfold Gen.Select_apply_skip applySkip
    simp only [bind, Except.bind, pure, Except.pure]
    cases hs : sl.sort.isEmpty <;> cases hp : sl.proj <;> cases hd : sl.dedup <;>
      cases hsl : (sl.sliceStart != 0 || sl.sliceStop.isSome) <;>
      simp [hs, hp, hd, hsl] <;> (repeat' split) <;> simp_all

end DafRel.Bridge
