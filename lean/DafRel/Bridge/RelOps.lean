/-
Bridge lemmas for translator T-f: `PartialJoin.columns_required`, `PartialJoin.commute`,
`Materialization.simplify`, `Transfer.simplify` and `Chain._begin_apply`, as regenerated from the
current source (Gen/RelOps.lean), are the model's definitions.
-/
import DafRel.Gen.RelOps

namespace DafRel.Bridge

open DafRel

theorem PartialJoin_columns_required_eq (p : PJoin) : Gen.PartialJoin_columns_required p = p.columnsRequired := rfl

theorem PartialJoin_commute_eq (p : PJoin) (cur : UOp) (tcols ccols : Cols) :
    Gen.PartialJoin_commute p cur tcols ccols = p.commute cur tcols ccols := by
  first
  | rfl
  | unfold Gen.PartialJoin_commute PJoin.commute
    rw [PartialJoin_columns_required_eq]
    cases cur <;> simp <;> (repeat' split) <;> simp_all

theorem Materialization_simplify_eq : (t : Rel) → Gen.Materialization_simplify t = matSimplify t
  | .leaf .. | .mat .. | .unary .. | .binary .. => by
    first
    | rfl
    | simp [Gen.Materialization_simplify, matSimplify]
  | .transfer _ d t => by
    first
    | exact congrArg (fun b => if d == t.engine then b else false) (Materialization_simplify_eq t)
    | simp only [Gen.Materialization_simplify, matSimplify, Rel.engine]
      rw [Materialization_simplify_eq t]
      by_cases h : (d == t.engine) = true <;> simp [h]
  -- the translation compares the engine of the `Select` with its target's, which is the same by definition
  | .select _ _ _ _ _ _ _ _ t => by
    first
    | exact (if_pos (beq_self_eq_true t.engine)).trans (Materialization_simplify_eq t)
    | simp only [Gen.Materialization_simplify, matSimplify, Rel.engine, beq_self_eq_true, if_true]
      exact Materialization_simplify_eq t

theorem Transfer_simplify_eq (dest : Engine) : (t : Rel) → Gen.Transfer_simplify dest t = transferSimplify dest t
  | .leaf .. | .mat .. | .unary .. | .binary .. => by
    first
    | rfl
    | simp [Gen.Transfer_simplify, transferSimplify, Rel.isLocked]
  | .transfer _ _ t => by
    first
    | exact congrArg (fun r => if dest == t.engine then some t else r) (Transfer_simplify_eq dest t)
    | simp only [Gen.Transfer_simplify, transferSimplify, Rel.isLocked, Bool.false_eq_true, if_false]
      rw [Transfer_simplify_eq dest t]
  | .select _ _ _ _ _ _ _ _ t => by
    first
    | exact Transfer_simplify_eq dest t
    | simp only [Gen.Transfer_simplify, transferSimplify, Rel.isLocked, Bool.false_eq_true, if_false]
      exact Transfer_simplify_eq dest t

theorem Chain_begin_apply_eq (l r : Rel) : Gen.Chain_begin_apply l r = chainBeginApply l r := rfl

end DafRel.Bridge
