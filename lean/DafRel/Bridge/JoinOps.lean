/-
Bridge lemmas for translator T-f, join methods: `PartialJoin._begin_apply`, `Join.applied_common_columns`,
`Join._begin_apply` and `Join._finish_apply`, as regenerated from the current source (Gen/JoinOps.lean), are the model's
`PJoin.beginApply`, `JoinOp.appliedCommonColumns`, `joinBeginApply` and `binaryFinishApply (.join j)`.  Apart from
Bridge/RelOps.lean so that a change to one of these methods concerns only the properties stated with them (C03, C14, C20).
-/
import DafRel.Gen.JoinOps
import DafRel.Bridge.RelOps
import DafRel.Lemmas.Base

namespace DafRel.Bridge

open DafRel

/-- The regenerated method calls itself on the replacement with resolved common columns, hence the recursion budget:
two levels suffice. -/
theorem PartialJoin_begin_apply_eq (fuel : Nat) (p : PJoin) (t : Rel) (pref : Option Engine) :
    Gen.PartialJoin_begin_apply (fuel+2) p t pref = p.beginApply t pref := by
  unfold PJoin.beginApply
  rw [Gen.PartialJoin_begin_apply]
  first
  | cases hres : p.join.resolved with
    | true => rfl
    | false =>
      cases p.join.appliedCommonColumns p.fixed.columns t.columns with
      | error e => rfl
      | ok c =>
        -- the call on the replacement finds it resolved
        have hr : JoinOp.resolved { p.join with minCols := c, maxCols := some c } = true := Cols.seteq_refl c
        simp only [Bool.not_false, if_true]
        rw [Gen.PartialJoin_begin_apply, hr]
        rfl
  | by_cases hres : p.join.resolved = true
    · simp [hres, PartialJoin_columns_required_eq]
    · have hres' : p.join.resolved = false := by simpa using hres
      simp only [hres', Bool.not_false, if_true]
      cases hc : p.join.appliedCommonColumns p.fixed.columns t.columns with
      | error e => rfl
      | ok c =>
        simp only []
        rw [Gen.PartialJoin_begin_apply]
        have hr : JoinOp.resolved { p.join with minCols := c, maxCols := some c } = true := by
          simp [JoinOp.resolved, Cols.seteq_refl]
        simp [hr, PartialJoin_columns_required_eq]

theorem Join_applied_common_columns_eq (j : JoinOp) (lcols rcols : Cols) :
    Gen.Join_applied_common_columns j lcols rcols = j.appliedCommonColumns lcols rcols := by
  unfold Gen.Join_applied_common_columns JoinOp.appliedCommonColumns
  first
  | -- `if not b: x else: y` in the translation where the model writes `if b then y else x`
    simp only [ite_not_eq_true]
    rfl
  | by_cases hres : (!j.resolved) = true
    · simp only [hres, if_true]
      cases hm : j.maxCols <;> simp only [] <;> (split <;> simp_all)
    · simp [hres]

/-- Once the two results of `common_columns` are known, both sides make the same tests in the same order. -/
theorem Join_begin_apply_eq (j : JoinOp) (l r : Rel) : Gen.Join_begin_apply j l r = joinBeginApply j l r := by
  unfold Gen.Join_begin_apply joinBeginApply
  first
  | cases j.appliedCommonColumns l.columns r.columns <;> cases j.commonColumns <;> rfl
  | simp only [bind, Except.bind, pure, Except.pure, throw, throwThe, MonadExceptOf.throw]
    by_cases h0 : (!(j.pred.columnsRequired.subset (l.columns.union r.columns))) = true
    · simp [h0]
    · simp only [h0, Bool.false_eq_true, if_false]
      by_cases hres : (!j.resolved) = true
      · simp only [hres, if_true]
        cases hc : j.appliedCommonColumns l.columns r.columns with
        | error e => rfl
        | ok c => rfl
      · simp only [hres, Bool.false_eq_true, if_false]
        cases hc : j.commonColumns with
        | error e => rfl
        | ok c =>
          -- tolerant of the order in which the two operands are checked
          first
            | rfl
            | (by_cases h1 : c.subset l.columns = true <;> by_cases h2 : c.subset r.columns = true <;> simp [h1, h2])

theorem Join_finish_apply_eq (j : JoinOp) (l r : Rel) :
    Gen.Join_finish_apply j l r = binaryFinishApply (.join j) l r := by
  first
  | unfold Gen.Join_finish_apply
    simp only [binaryFinishApply]
    -- the translation nests under `if triv` what the model writes as `triv && ..`
    cases (j.pred.asTrivial == some true) <;> rfl
  | unfold Gen.Join_finish_apply binaryFinishApply
    by_cases ht : (j.pred.asTrivial == some true) = true
    · by_cases h1 : l.isJoinIdentity = true
      · simp [ht, h1]
      · by_cases h2 : r.isJoinIdentity = true <;> simp [ht, h1, h2]
    · simp [ht]

end DafRel.Bridge
