/-
Property C11 — the SQL engine honours sort order for slices and for trailing sorts, or refuses.

Proved up to what is trusted: that the database returns the rows of a query in its ORDER BY order and applies
OFFSET/LIMIT to that order is a fact about the database, modelled in `Model/Sql.lean` (the list semantics of SQL)
and validated on SQLite (both physical scan orders), not proved.  Rows are ordered lists throughout.
`emitted_select_honours_sort_and_slice` and the two `sorted_slice_executes_*` theorems are about the query the engine
emits, under the list semantics of SQL, with the hypotheses of C02: the decidable check `Rel.structReady` on the
conformed tree and faithful payloads.  The others are about the tree it builds, in the reference semantics.
-/
import DafRel.Lemmas.ConformSound
import DafRel.Lemmas.SqlRunSound

namespace DafRel.Props.C11

variable {I : NodeInv}

open DafRel

/-- A slice applied inside the SQL engine to any raw SQL tree yields exactly rows [start, stop) of the target's rows
*in the target's order* - whether it was merged into the Select's recorded slice, or the target was sorted, projected or
deduplicated before. -/
theorem slice_returns_the_window (σ : Leaves) (st : Store) (fuel : Nat) (a : Nat) (b : Option Nat) (t : Rel)
    (res : Res) (hwf : t.WF) (htr : t.Truthful σ) (hraw : t.RawSql)
    (h : applyOp st fuel (.u (.slice a b)) t {} = .ok res) :
    sem σ (res.get t) = sliceList a b (sem σ t) :=
  ((treeBuild_sound σ st fuel).apply _ t res (raw_good σ t hwf htr hraw) h).2.1.sem_eq

/-- A sort applied inside the SQL engine yields the target's rows stably sorted - merged with a recorded sort, nested
above a recorded slice, or wrapped around a UNION. -/
theorem sort_is_applied_on_top (σ : Leaves) (st : Store) (fuel : Nat) (ts : List SortTerm) (t : Rel)
    (res : Res) (hwf : t.WF) (htr : t.Truthful σ) (hraw : t.RawSql)
    (h : applyOp st fuel (.u (.sort ts)) t {} = .ok res) :
    sem σ (res.get t) = isort (lexLe ts) (sem σ t) :=
  ((treeBuild_sound σ st fuel).apply _ t res (raw_good σ t hwf htr hraw) h).2.1.sem_eq

/-- Where a sort without a slice would be buried under a join or a chain, the engine raises `RelationalAlgebraError`
instead of dropping it ... -/
theorem binary_refuses_unsliced_sort (st : Store) (fuel : Nat) (op : BOp) (l r : Rel)
    (h : (l.slots.hasSort && !l.slots.hasSlice) = true ∨ (r.slots.hasSort && !r.slots.hasSlice) = true) :
    appendBinarySel st (fuel+1) op l r = .error .relAlg := by
  rw [appendBinarySel_eq]
  by_cases h1 : (l.slots.hasSort && !l.slots.hasSlice) = true
  · exact if_pos h1
  · exact (if_neg h1).trans (if_pos (h.resolve_left h1))

/-- ... and likewise under a materialization. -/
theorem materialize_refuses_unsliced_sort (st : Store) (fuel : Nat) (t : Rel) (name : String) (ct : Res)
    (hk : t.engine.kind = .sql) (hc : conform st fuel t = .ok ct)
    (h : ((ct.get t).slots.hasSort && !(ct.get t).slots.hasSlice) = true) :
    materialize st (fuel+1) t name = .error .relAlg := by
  rw [materialize, hk, hc]
  exact if_pos h

/-- The query emitted for a coherent Select returns the skip target's rows stably sorted by the recorded terms,
projected, deduplicated and THEN cut to the recorded window - ORDER BY and OFFSET/LIMIT of one query level, in that
order. -/
theorem emitted_select_honours_sort_and_slice (σ : Leaves) (s : SqlState) (fuel : Nat) (S : Rel) (ctr : Nat)
    (q : Query) (c : Nat) (hg : Good I σ S) (hs : S.isSelect = true) (hrd : S.SqlReady s s.tables σ)
    (h : compileSelect s fuel S ctr = .ok (q, c)) (hdup : q.hasDup = false) :
    (Query.eval s.tables q).rows = S.slots.sem S.skipTo.columns (sem σ S.skipTo) := by
  rw [(compile_sound σ s fuel).select S ctr q c hg hs hrd h hdup]
  exact (hg.selInv hs).1.sem_eq

theorem sorted_slice_good (σ : Leaves) (st : Store) (f1 f2 : Nat) (ts : List SortTerm) (a : Nat) (b : Option Nat)
    (t : Rel) (r1 r2 : Res) (g0 : Good I σ t)
    (h1 : applyOp st f1 (.u (.sort ts)) t {} = .ok r1)
    (h2 : applyOp st f2 (.u (.slice a b)) (r1.get t) {} = .ok r2) :
    Good I σ (r2.get (r1.get t)) ∧ sem σ (r2.get (r1.get t)) = sliceList a b (isort (lexLe ts) (sem σ t)) := by
  obtain ⟨g1, F1, _⟩ := (treeBuild_sound σ st f1).apply _ t r1 g0 h1
  obtain ⟨g2, F2, _⟩ := (treeBuild_sound σ st f2).apply _ (r1.get t) r2 g1 h2
  exact ⟨g2, F2.sem_eq.trans (congrArg (sliceList a b) F1.sem_eq)⟩

/-- Sort then slice through the factories, conform, compile, evaluate: the database returns rows [start, stop) of the
stably sorted rows, in that order. -/
theorem sorted_slice_executes_in_order (σ : Leaves) (s : SqlState) (st : Store) (f1 f2 : Nat)
    (ts : List SortTerm) (a : Nat) (b : Option Nat) (t : Rel) (r1 r2 : Res) (out : EvalOut) (bb : Bool)
    (hwf : t.WF) (htr : t.Truthful σ) (hraw : t.RawSql)
    (h1 : applyOp st f1 (.u (.sort ts)) t {} = .ok r1)
    (h2 : applyOp st f2 (.u (.slice a b)) (r1.get t) {} = .ok r2)
    (hready : ∀ c, conform st defaultFuel (r2.get (r1.get t)) = .ok c →
      (c.get (r2.get (r1.get t))).structReady s = true ∧ (c.get (r2.get (r1.get t))).Faithful s s.tables σ)
    (hrun : sqlRun s st (r2.get (r1.get t)) = .inr (out, bb)) :
    out.rows = sliceList a b (isort (lexLe ts) (sem σ t)) := by
  obtain ⟨g2, e⟩ := sorted_slice_good σ st f1 f2 ts a b t r1 r2 (raw_good σ t hwf htr hraw) h1 h2
  exact (sqlRun_sound_good σ s st _ out bb g2 hready hrun).trans e

/-- The same with the faithful payloads asked of the input tree. -/
theorem sorted_slice_executes_in_order_of_faithful_input (σ : Leaves) (s : SqlState) (st : Store) (f1 f2 : Nat)
    (ts : List SortTerm) (a : Nat) (b : Option Nat) (t : Rel) (r1 r2 : Res) (out : EvalOut) (bb : Bool)
    (hwf : t.WF) (htr : t.Truthful σ) (hraw : t.RawSql) (hF : t.Faithful s s.tables σ) (h0 : s.payload 0 = none)
    (h1 : applyOp st f1 (.u (.sort ts)) t {} = .ok r1)
    (h2 : applyOp st f2 (.u (.slice a b)) (r1.get t) {} = .ok r2)
    (hready : ∀ c, conform st defaultFuel (r2.get (r1.get t)) = .ok c →
      (c.get (r2.get (r1.get t))).structReady s = true)
    (hrun : sqlRun s st (r2.get (r1.get t)) = .inr (out, bb)) :
    out.rows = sliceList a b (isort (lexLe ts) (sem σ t)) := by
  obtain ⟨g2, e⟩ := sorted_slice_good σ st f1 f2 ts a b t r1 r2
    (raw_goodI σ t hwf htr hraw (atomsOK_of_faithful s s.tables σ h0 t hraw hF)) h1 h2
  exact (sqlRun_sound_payInv σ s st _ out bb h0 g2 hready hrun).trans e

/-! non-vacuity of the two statements above: a two-row table, sorted descending, first row -/
private def tx : Tag := ⟨"x", true⟩
private def eS : Engine := ⟨0, .sql⟩
private def rowsX : List Row := [fun t => if t = tx then some 1 else none, fun t => if t = tx then some 2 else none]
private def sX : SqlState := { payloads := [(1, tablePayload "T" 1 0 [tx])], tables := [rowsX] }
private def leafX : Rel := .leaf 1 eS [tx] "T" 0 none true 0
private def sortedX : Rel := ((applyOp [] defaultFuel (.u (.sort [⟨.ref tx, false⟩])) leafX {}).toOption.map (·.get leafX)).getD leafX
private def slicedX : Rel := ((applyOp [] defaultFuel (.u (.slice 0 (some 1))) sortedX {}).toOption.map (·.get sortedX)).getD sortedX
example : (slicedX.isSelect, slicedX.slots.hasSort, slicedX.slots.hasSlice) = (true, true, true) := by decide +kernel
example : (match sqlRun sX [] slicedX with
    | .inr (out, _) => out.rows.map (fun r => r tx)
    | .inl _ => []) = [some 2] := by decide +kernel
example : ((conform [] defaultFuel slicedX).toOption.map (fun c => (c.get slicedX).structReady sX)) = some true := by
  decide +kernel

end DafRel.Props.C11
