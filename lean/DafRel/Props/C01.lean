/-
Property C01 — the iteration engine executes the applied operation sequence exactly.

Quantifiers: every construction history (`Build`: leaves, unary operations of any kind applied through `apply` with
default options, `chain`, `materialized`) inside ONE iteration engine, every leaf content, every starting payload
store whose cached payloads are right (the empty one, and every store left behind by earlier executions).

`Build.direct` is the specification named in the property text (calculation = map, projection = map, selection =
filter, deduplication = first occurrence, sort = stable sort by the per-direction lexicographic comparator, slice
positional, chain = concatenation); it never looks at the tree the library built.  `Build.tree` models the factory
calls (`UnaryOperation.apply`/`_finish_apply` with all merging and elision, `Chain`, `materialized`), `exec` models
`iteration.Engine.execute` (dict-based deduplication, multi-pass sort, `enumerate`-based slicing, payload cache,
metadata short-cuts).  Both are tied to the code by the correspondence run.

Hypotheses, each a documented precondition (the examples at the end meet them all): leaves are truthful (rows have
exactly the declared columns; declared bounds hold); function applications have the arity of their function; the
input of every deduplication is key-determined (the `is_key` contract that makes key-based deduplication a row
deduplication); marker allocation ids are used consistently (same object ⇒ same content).
-/
import DafRel.Lemmas.Build
import DafRel.Lemmas.Exec

namespace DafRel.Props.C01

open DafRel

/-- Tree level: executing a well-formed iteration-engine tree never fails, yields exactly the rows of the reference
semantics (values, multiplicity, order) and keeps the payload store right, so the statement applies again to the
next execution. -/
theorem exec_tree_correct (σ : Leaves) (reg : Nat → Option (List Row)) (r : Rel) (s : ExecState)
    (hio : r.IterOK) (hwf : r.WF) (htr : r.Truthful σ) (hkd : keyDetermined σ r = true)
    (hreg : r.RegOK σ reg) (hs : StoreOK σ reg s) :
    ∃ it s', exec σ r.engine r s = .ok (it, s') ∧ it.rows σ = .ok (sem σ r) ∧ StoreOK σ reg s' := by
  obtain ⟨it, s', h1, h2, _, h4⟩ := exec_correct σ reg r r.engine s hio hwf htr hkd hreg hs rfl
  exact ⟨it, s', h1, h2, h4⟩

/-- Factory level: whatever merging or elision happened while it was built, the tree for a history has the rows of
the history's direct evaluation, is well-formed and executable by the iteration engine, and has (as a set) the
promised columns. -/
theorem built_tree_sem (σ : Leaves) (st : Store) (eng : Engine) (hk : eng.kind = .iter)
    (b : Build) (r : Rel) (hok : b.ok σ) (hb : b.tree st eng = .ok r) :
    sem σ r = b.direct σ ∧ r.WF ∧ r.IterOK ∧ (∀ c, c ∈ r.columns ↔ c ∈ b.cols) := by
  have h := build_invariant σ st eng hk b r hok hb
  exact ⟨h.sem_eq, h.wf, h.iterOK, h.cols⟩

/-- C01 from any payload store whose cached payloads are right (every store left behind by earlier executions is:
cached materializations are reused); the store stays right. -/
theorem history_exec_correct_again (σ : Leaves) (st : Store) (eng : Engine) (hk : eng.kind = .iter)
    (b : Build) (r : Rel) (hok : b.ok σ) (hb : b.tree st eng = .ok r)
    (reg : Nat → Option (List Row)) (hreg : r.RegOK σ reg) (s : ExecState) (hs : StoreOK σ reg s) :
    ∃ it s', exec σ eng r s = .ok (it, s') ∧ it.rows σ = .ok (b.direct σ) ∧ StoreOK σ reg s' := by
  have h := build_invariant σ st eng hk b r hok hb
  obtain ⟨it, s', h1, h2, _, h4⟩ := exec_correct σ reg r eng s h.iterOK h.wf h.truthful h.kd hreg hs h.engine
  exact ⟨it, s', h1, by rw [h2, h.sem_eq], h4⟩

/-- **C01, end to end.**  For every construction history inside an iteration engine that the factories accept,
executing the built tree from an empty payload store succeeds and yields exactly the rows (values, multiplicity,
order) of the direct evaluation of the operation sequence. -/
theorem history_exec_correct (σ : Leaves) (st : Store) (eng : Engine) (hk : eng.kind = .iter)
    (b : Build) (r : Rel) (hok : b.ok σ) (hb : b.tree st eng = .ok r)
    (hcons : r.MarkersConsistent σ) :
    ∃ it s', exec σ eng r {} = .ok (it, s') ∧ it.rows σ = .ok (b.direct σ) := by
  obtain ⟨it, s', h1, h2, _⟩ := history_exec_correct_again σ st eng hk b r hok hb _
    (RegOK_of_consistent σ r hcons) {} (StoreOK.empty σ _)
  exact ⟨it, s', h1, h2⟩

/-- The engine's multi-pass sort (one stable pass per direction group, last group first) is the stable sort by the
per-direction lexicographic comparator. -/
theorem multipass_sort_is_lexicographic_stable_sort (ts : List SortTerm) (l : List Row) :
    multipassSort ts l = isort (lexLe ts) l :=
  multipassSort_eq ts l

/-- Dict-based deduplication (`to_mapping`: position of the first insertion, value of the last) is first-occurrence
deduplication on key-determined rows. -/
theorem dict_dedup_is_first_occurrence (cols : Cols) (rows : List Row) (hc : RowsHaveCols rows cols)
    (hkd : rowsKeyDetermined cols rows = true) :
    dictDedup cols.keys rows = .ok (firstOcc cols rows) :=
  dictDedup_eq_firstOcc cols rows hc hkd

/-- The `enumerate`-based generator of `SliceRowIterable` is positional slicing. -/
theorem slice_iterable_is_positional {α : Type} (s : Nat) (e : Option Nat) (l : List α) :
    sliceEnum s e 0 l = sliceList s e l :=
  sliceEnum_zero s e l

def tA : Tag := ⟨"a", true⟩
def tB : Tag := ⟨"b", false⟩
def mkRow (a b : Int) : Row := fun t => if t = tA then some a else if t = tB then some b else none
def exLeaves : Leaves := fun _ => [mkRow 1 2, mkRow 0 5, mkRow 1 2]
def exEng : Engine := ⟨1, .iter⟩
/-- leaf → deduplicate → sort by `a` ascending → `[0:1]`, chained with the leaf, materialized. -/
def exBuild : Build :=
  .mat 7 "m" (.chain
    (.op (.slice 0 (some 1)) (.op (.sort [⟨.ref tA, true⟩]) (.op .dedup (.leaf 1 [tA, tB] "t" 3 (some 3) 0))))
    (.leaf 1 [tA, tB] "t" 3 (some 3) 0))

theorem mkRow_cols (a b : Int) : RowHasCols (mkRow a b) [tA, tB] :=
  (RowHasCols.none.ite_cons tB b).ite_cons tA a

example : exBuild.ok exLeaves := by
  have hl : RowsHaveCols (exLeaves 1) [tA, tB] :=
    .cons (mkRow_cols _ _) (.cons (mkRow_cols _ _) (.cons (mkRow_cols _ _) (.nil _)))
  have leaf : Build.ok exLeaves (.leaf 1 [tA, tB] "t" 3 (some 3) 0) :=
    ⟨hl, by decide, by intro m hm; cases hm; decide⟩
  exact ⟨⟨⟨⟨leaf, rfl, fun _ => by decide⟩, rfl, nofun⟩, rfl, nofun⟩, leaf⟩

/-- The factories accept the history `exBuild`. -/
example : (exBuild.tree [] exEng).toBool = true := by decide +kernel

/-- The tree built for `exBuild` has exactly one marker node, so marker ids are trivially consistent. -/
example : ((exBuild.tree [] exEng).toOption.map (fun r => (r.markers exLeaves).length)) = some 1 := by
  decide +kernel

/-- The direct evaluation of `exBuild` is the expected non-trivial row list. -/
example : (exBuild.direct exLeaves).map (fun r => r.proj [tA, tB]) =
    [[some 0, some 5], [some 1, some 2], [some 0, some 5], [some 1, some 2]] := by decide +kernel

end DafRel.Props.C01
