/-
Property C20 — ill-formed requests are rejected at the factory call with the documented error.

What is proved (all targets = any tree at all, all engines, all option combinations):
  * unary operations: an operation that is not a no-op on the target and is ill-formed for its columns makes `apply`
    raise `ColumnError`, whatever options are passed (`unary_rejected`);
  * chain: different engines -> `EngineError`, different columns -> `ColumnError` (`chain_rejected_*`);
  * join: a predicate column missing from both operands -> `ColumnError` (`join_rejected_missing_predicate_column`);
    operands of different engines: `Join.apply` never returns a relation (it raises `EngineError` whenever the
    columns are fine), nor does `relation.join(fixed, backtrack=False, transfer=False)` on a target in an
    iteration engine (`cross_engine_join_*`);
  * slices: negative start or stop before start -> `ValueError`; a step other than 1 -> `TypeError`
    (`slice_rejected_*`, `getitem_rejected_bounds`);
  * unsupported expressions: `EngineError` for a calculation on any target, for other operations on any target they
    are not merged with (`unsupported_*`).
"No such request returns a relation": the results above are `Except.error`.  "A rejected call leaves every existing
relation unchanged": relations are immutable values of the model; for the implementation this is what C09's
fingerprint monitoring checks.
Partial: cross-engine joins WITH back-tracking but without transfer (whether they are rejected depends on whether
back-tracking finds a place - C03's `join_with_every_option_sound` says what is returned when they are not);
unsupported expressions that are first merged with an upstream operation of the same kind.
-/
import DafRel.Lemmas.BacktrackJoin
import DafRel.Bridge.Kernel
import DafRel.Bridge.Ops
import DafRel.Bridge.RelOps
import DafRel.Bridge.JoinOps

namespace DafRel.Props.C20

open DafRel

/-- Whatever the options, `apply` starts with `_begin_apply`. -/
theorem begin_apply_error_propagates (st : Store) (fuel : Nat) (op : AnyOp) (t : Rel) (o : Opts) (e : Err)
    (h : op.beginApply t o.pref = .error e) : applyOp st (fuel+1) op t o = .error e := by
  rw [applyOp_eq_begin, h]

theorem begin_apply_rejects_illformed (op : UOp) (t : Rel) (pref : Option Engine)
    (hn : op.noopOn t.columns = false) (hw : op.wfOn t.columns = false) :
    op.beginApply t pref = .error .column := by
  rw [UOp.beginApply_eq, hn, hw]
  rfl

/-- **Unary operations.**  `hw`: a required column of a calculation / projection / selection / sort is missing, or
the calculated tag exists.  The `ColumnError` comes from `apply` itself - on any target, in any engine, through
every combination of options. -/
theorem unary_rejected (st : Store) (fuel : Nat) (op : UOp) (t : Rel) (o : Opts)
    (hn : op.noopOn t.columns = false) (hw : op.wfOn t.columns = false) :
    applyOp st (fuel+1) (.u op) t o = .error .column := by
  apply begin_apply_error_propagates
  rw [AnyOp.beginApply, begin_apply_rejects_illformed op t o.pref hn hw]
  rfl

theorem chain_rejected_engines (st : Store) (fuel : Nat) (l r : Rel) (h : l.engine ≠ r.engine) :
    binaryApply st (fuel+1) .chain l r = .error .engine := by
  rw [binaryApply, chainBeginApply, if_pos (bne_iff_ne.mpr h)]
  rfl

theorem chain_rejected_columns (st : Store) (fuel : Nat) (l r : Rel) (he : l.engine = r.engine)
    (h : l.columns.seteq r.columns = false) : binaryApply st (fuel+1) .chain l r = .error .column := by
  rw [binaryApply, chainBeginApply, he, bne_self_eq_false, h]
  rfl

theorem join_rejected_missing_predicate_column (st : Store) (t rhs : Rel) (pred : Pred)
    (backtrack transfer : Bool) (c : Tag) (hc : c ∈ pred.columnsRequired)
    (hl : c ∉ t.columns) (hr : c ∉ rhs.columns) :
    Rel.joinWith st t rhs pred backtrack transfer = .error .column := by
  show applyOp st defaultFuel (.pj ⟨⟨pred, [], none⟩, rhs, false⟩) t _ = _
  rw [defaultFuel_eq]
  apply begin_apply_error_propagates
  -- with no minimal common columns the automatic resolution succeeds
  have hcc : JoinOp.appliedCommonColumns ⟨pred, [], none⟩ rhs.columns t.columns =
      .ok (Cols.keys (Cols.inter rhs.columns t.columns)) := rfl
  -- `c` is then required of the target: the predicate needs it and the fixed relation lacks it
  have hreq (common : Cols) :
      (PJoin.columnsRequired ⟨⟨pred, common, some common⟩, rhs, false⟩).subset t.columns = false :=
    Bool.eq_false_iff.mpr fun hsub => hl (Cols.mem_of_subset hsub
      ((Cols.mem_union _ _ c).mpr (Or.inl ((Cols.mem_diff _ _ c).mpr ⟨hc, hr⟩))))
  simp [AnyOp.beginApply, PJoin.beginApply, JoinOp.resolved, hcc, hreq, Except.map]

theorem cross_engine_join_apply_rejected (st : Store) (fuel : Nat) (j : JoinOp) (l r : Rel)
    (hne : l.engine ≠ r.engine) (res : BRes) : binaryApply st fuel (.join j) l r ≠ .ok res :=
  binaryApply_join_cross_engine st fuel j l r hne res

/-- `Join.apply(lhs, rhs)` on operands of different engines whose columns are fine raises `EngineError`. -/
theorem cross_engine_join_apply_raises_engine_error (st : Store) (fuel : Nat) (j : JoinOp) (l r : Rel)
    (hne : l.engine ≠ r.engine) (op' : BOp) (hb : joinBeginApply j l r = .ok op') :
    binaryApply st (fuel+2) (.join j) l r = .error .engine := by
  obtain ⟨op, rfl, hpred, htriv⟩ := joinBeginApply_cross_engine j l r op' hne hb
  rw [binaryApply]
  simp only [hb, Except.ok_bind]
  split
  · exact binaryFinishApply_join_cross_engine op l r hne (hpred ▸ htriv)
  · exact appendBinarySql_cross_engine st fuel _ l r hne

/-- `relation.join(fixed, backtrack=False, transfer=False)` across engines never returns a relation (the proof uses
neither `hpref` nor `hfix0`). -/
theorem cross_engine_join_without_options_rejected (st : Store) (fuel : Nat) (p : PJoin) (t : Rel) (o : Opts)
    (hpref : o.pref = none ∨ o.pref = some p.fixed.engine) (hbt : o.backtrack = false) (htr : o.transfer = false)
    (hkt : t.engine.kind = .iter) (hne : p.fixed.engine ≠ t.engine)
    (hfix0 : p.join.resolved = true → p.join.minCols.subset p.fixed.columns = true)
    (res : Res) : applyOp st fuel (.pj p) t o ≠ .ok res :=
  applyOp_pj_cross_engine st fuel p t o hbt htr hkt hne res

/-- non-vacuity: two leaves of different engines sharing the key `a`: the columns are fine, the engines are not -/
example :
    let l : Rel := .leaf 1 ⟨0, .iter⟩ [⟨"a", true⟩] "L" 0 none true 0
    let r : Rel := .leaf 2 ⟨1, .sql⟩ [⟨"a", true⟩] "R" 0 none true 0
    l.engine ≠ r.engine ∧ (joinBeginApply ⟨.lit true, [], none⟩ l r).toOption.isSome = true ∧
      (match binaryApply [] defaultFuel (.join ⟨.lit true, [], none⟩) l r with
        | .error .engine => true
        | _ => false) = true := by decide

theorem slice_rejected_negative (start : Int) (stop : Option Int) (h : start < 0) :
    UOp.mkSlice start stop = .error .value :=
  if_pos h

theorem slice_rejected_reversed (start stop : Int) (h : stop < start) :
    UOp.mkSlice start (some stop) = .error .value := by
  unfold UOp.mkSlice
  split
  · rfl
  · exact if_pos h

theorem slice_rejected_step (st : Store) (t : Rel) (a b : Option Int) (k : Int) (h : k ≠ 1) :
    Rel.getItem st t a b (some k) = .error .type := by simp [Rel.getItem, h]

/-- `relation[a:b]` with bad bounds is the constructor's `ValueError`. -/
theorem getitem_rejected_bounds (st : Store) (t : Rel) (a : Int) (b : Option Int)
    (h : UOp.mkSlice a b = .error .value) : Rel.getItem st t (some a) b none = .error .value := by
  simp [Rel.getItem, h]

/-- The Python `Slice(start, stop)` constructor check, as re-read from the source on this run, is the model's. -/
theorem bridge_Slice_new (s : Int) (e : Option Int) :
    Gen.Slice_new (.int s) (Bridge.optI e) = Bridge.sliceObj (UOp.mkSlice s e) :=
  Bridge.Slice_new_eq s e

theorem unsupported_construct (op : UOp) (t : Rel) (h : op.isSupportedBy t.engine.kind = false) :
    op.construct t = .error .engine :=
  construct_eq_error.mpr ⟨h, rfl⟩

/-- A calculation is no no-op and `simplify` merges it with nothing: on every target `_finish_apply` is the
constructor call. -/
theorem unsupported_calculation (tag : Tag) (e : Expr) (t : Rel)
    (h : (UOp.calc tag e).isSupportedBy t.engine.kind = false) :
    (UOp.calc tag e).finishApply t = .error .engine := by
  have hc := unsupported_construct _ t h
  cases t <;> exact hc

/-- The `_begin_apply` checks of the unary operations, as translated from the current Python source on this run
(translator T-e), are the model's. -/
theorem bridge_begin_apply_methods (t : Rel) (pref : Option Engine) :
    (∀ tag e, Gen.Calculation_begin_apply tag e t.columns t.engine pref = (UOp.calc tag e).beginApply t pref) ∧
    (∀ c, Gen.Projection_begin_apply c t.columns t.engine pref = (UOp.proj c).beginApply t pref) ∧
    (∀ p, Gen.Selection_begin_apply p t.columns t.engine pref = (UOp.sel p).beginApply t pref) ∧
    (∀ s e, Gen.Slice_begin_apply s e t.columns t.engine pref = (UOp.slice s e).beginApply t pref) ∧
    (∀ ts, Gen.Sort_begin_apply ts t.columns t.engine pref = (UOp.sort ts).beginApply t pref) :=
  ⟨fun tag e => Bridge.Calculation_begin_apply_eq tag e t pref, fun c => Bridge.Projection_begin_apply_eq c t pref,
   fun p => Bridge.Selection_begin_apply_eq p t pref, fun s e => Bridge.Slice_begin_apply_eq s e t pref,
   fun ts => Bridge.Sort_begin_apply_eq ts t pref⟩

/-- The same for `Join._begin_apply` (column checks, resolution of the common columns, the join-identity short-cut
and its cross-engine refusal), which `cross_engine_join_apply_*` are stated with. -/
theorem bridge_join_begin_apply (j : JoinOp) (l r : Rel) : Gen.Join_begin_apply j l r = joinBeginApply j l r :=
  Bridge.Join_begin_apply_eq j l r

/-- The same for `Join._finish_apply` (join-identity short-cuts, the refusal of operands in different engines and
of an unsupported predicate). -/
theorem bridge_join_finish_apply (j : JoinOp) (l r : Rel) :
    Gen.Join_finish_apply j l r = binaryFinishApply (.join j) l r :=
  Bridge.Join_finish_apply_eq j l r

/-- The same for `PartialJoin._begin_apply` (the column check of `relation.join`). -/
theorem bridge_partial_join_begin_apply (fuel : Nat) (p : PJoin) (t : Rel) (pref : Option Engine) :
    Gen.PartialJoin_begin_apply (fuel+2) p t pref = p.beginApply t pref :=
  Bridge.PartialJoin_begin_apply_eq fuel p t pref

/-- The same for `Chain._begin_apply`. -/
theorem bridge_chain_begin_apply (l r : Rel) : Gen.Chain_begin_apply l r = chainBeginApply l r :=
  Bridge.Chain_begin_apply_eq l r

private def ta : Tag := ⟨"a", true⟩
private def tb : Tag := ⟨"b", false⟩
private def e0 : Engine := ⟨0, .iter⟩
private def leaf0 : Rel := .leaf 1 e0 [ta] "L" 0 none true 0

/-- a projection onto all columns plus a missing one is neither a no-op nor well-formed -/
example : (UOp.proj [ta, tb]).noopOn leaf0.columns = false ∧ (UOp.proj [ta, tb]).wfOn leaf0.columns = false := by
  decide
example : applyOp [] defaultFuel (.u (.proj [ta, tb])) leaf0 { pref := some ⟨7, .sql⟩, transfer := true }
    = .error .column := unary_rejected [] 99999 _ _ _ (by decide) (by decide)

end DafRel.Props.C20
