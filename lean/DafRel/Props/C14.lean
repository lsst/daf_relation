/-
Property C14 — every reachable tree is engine-consistent and structurally well-formed.

Claimed at proof level, partial.  Machine-checked:
  * `_finish_apply`, with all its merging and elision, preserves `Rel.EngineOK` and `Rel.WF`, so every tree of an
    iteration-engine construction history has both (`history_trees_wellformed`);
  * every tree of a construction history inside ONE SQL engine, and what `apply` and `conform` return for a raw SQL
    tree, is `WF` and lives in that engine (`sql_history_trees_wellformed`, `sql_apply_wellformed`,
    `sql_conform_wellformed`);
  * a unary operation applied with ANY combination of backtrack / transfer / require options and any iteration
    engine preferred to an iteration-engine tree (as in C03, a projection is not back-tracked past a deduplication:
    `spineNoDedup`), and a join of such a tree with a relation in a database, return a well-formed relation in the
    target's engine or (transfer only) the preferred one
    (`apply_with_options_wellformed`, `join_with_backtracking_wellformed`, `join_with_every_option_wellformed`);
  * what `Processor.process` returns for a multi-engine tree whose operations run in iteration engines is `WF`,
    executable (`Rel.IterOKs`: operands of a chain share an engine, a transfer leads from an iteration engine or
    holds its payload) and has the engine of the input (`processed_trees_wellformed`);
  * resolved common columns of joins, transfers that never connect an engine to itself, the documented no-op
    calls: the theorems below; ill-formed calls raise (`Props/C20`).
Not proved (validated by walking every tree the real library returns): `EngineOK` of the nodes INSIDE SQL-engine
trees (expression support per node), joins with a preferred engine other than the fixed relation's, trees
processed through a SQL engine.
-/
import DafRel.Lemmas.Build
import DafRel.Lemmas.ProcMulti
import DafRel.Lemmas.BacktrackJoin
import DafRel.Bridge.RelOps
import DafRel.Bridge.JoinOps

namespace DafRel.Props.C14

open DafRel

/-- The two idle premises give it the shape of the hypothesis `hsimp` of `finishApply_pres` at
`Q := (·.isIdentity = false)`, `Qu := fun _ => True`; `DafRel.finishApply_engineOK` passes the statement without
them there. -/
theorem simplify_notIdentity (new up s : UOp) (h : new.simplify up = .ok (.replace s))
    (_ : new.isIdentity = false) (_ : True) : s.isIdentity = false :=
  DafRel.simplify_notIdentity new up s h

/-- Whatever `_finish_apply` merges or elides, every node it creates is a concrete operation whose expressions
the node's engine supports. -/
theorem finishApply_engineOK (t : Rel) (op : UOp) (res : Res) (ht : t.EngineOK)
    (hop : op.isIdentity = false) (h : op.finishApply t = .ok res) : (res.get t).EngineOK :=
  DafRel.finishApply_engineOK t op res ht hop h

theorem finishApply_identity_same (t : Rel) : UOp.identity.finishApply t = .ok .same :=
  finishApply_identity t

theorem history_engineOK (σ : Leaves) (st : Store) (eng : Engine) (hk : eng.kind = .iter) :
    (b : Build) → (r : Rel) → b.ok σ → b.tree st eng = .ok r → r.EngineOK :=
  fun b r hok h => (build_invariants σ st eng hk b r hok h).2

theorem history_trees_wellformed (σ : Leaves) (st : Store) (eng : Engine) (hk : eng.kind = .iter)
    (b : Build) (r : Rel) (hok : b.ok σ) (hb : b.tree st eng = .ok r) :
    r.WF ∧ r.EngineOK ∧ r.engine = eng :=
  let ⟨inv, eok⟩ := build_invariants σ st eng hk b r hok hb
  ⟨inv.wf, eok, inv.engine⟩

/-- Automatic resolution of a join's common columns: key columns that both operands have. -/
theorem join_common_columns_resolved (j : JoinOp) (lcols rcols common : Cols) (hr : j.resolved = false)
    (h : j.appliedCommonColumns lcols rcols = .ok common) :
    (∀ t, t ∈ common → t ∈ lcols ∧ t ∈ rcols ∧ t.isKey = true) ∧ j.minCols.subset common = true :=
  JoinOp.appliedCommonColumns_of_not_resolved j lcols rcols common hr h

theorem transfer_never_to_same_engine (st : Store) (fuel : Nat) (dest : Engine) (t : Rel) (oid : Nat)
    (d : Engine) (u : Rel) (hd : dest.kind = .iter) (hk : t.engine.kind = .iter)
    (hs : transferSimplify dest t = none)
    (h : transferTo st (fuel+2) dest t = .ok (.new (.transfer oid d u))) : d ≠ u.engine := by
  rw [transferTo_iter st fuel dest t hd hk hs] at h
  split at h
  · cases h
  · next he =>
    -- the new Transfer leads from the engine of the target, which is not the destination
    cases h
    exact fun heq => he (beq_iff_eq.mpr heq.symm)

/-- `Engine.transfer(target, payload)`: a call that would connect an engine to itself raises instead (next theorem). -/
theorem transfer_with_payload_never_to_same_engine (st : Store) (fuel : Nat) (dest : Engine) (t : Rel)
    (hd : dest.kind = .iter) (hk : ((transferSimplify dest t).getD t).engine.kind = .iter) (r : Res)
    (h : transferWithPayload st (fuel+2) dest t = .ok r) :
    ∃ u, r = .new (.transfer 0 dest u) ∧ dest ≠ u.engine := by
  unfold transferWithPayload at h
  obtain ⟨he, h⟩ := Except.ite_error_eq_ok.mp h
  cases hs : transferSimplify dest t with
  | some s =>
    -- what `Transfer.simplify` finds lives in the destination: that call raises
    rw [hs, Option.getD_some, transferSimplify_engine dest t s hs] at he
    exact absurd (beq_self_eq_true dest) he
  | none =>
    rw [hs, Option.getD_none] at he hk
    rw [transferTo_iter st fuel dest t hd hk hs, if_neg he] at h
    cases h
    exact ⟨t, rfl, fun heq => he (beq_iff_eq.mpr heq.symm)⟩

theorem transfer_with_payload_to_own_engine_raises (st : Store) (fuel : Nat) (dest : Engine) (t : Rel)
    (he : ((transferSimplify dest t).getD t).engine = dest) :
    transferWithPayload st fuel dest t = .error .engine := by
  simp [transferWithPayload, he]

/-- Projection onto all columns, empty sort, whole-range slice, trivially-true selection (iteration engine).
`hnotcalc` (the operation is no deduplication) is not used: `hn` is false of a deduplication. -/
theorem noop_calls_return_self (st : Store) (fuel : Nat) (op : UOp) (t : Rel) (hk : t.engine.kind = .iter)
    (hn : op.noopOn t.columns = true) (hnotcalc : op.isDedup = false) :
    applyOp st (fuel+2) (.u op) t {} = .ok .same := by
  rw [applyOp_iter_eq st fuel op t hk, if_pos hn]

theorem sql_apply_wellformed (σ : Leaves) (st : Store) (fuel : Nat) (op : UOp) (t : Rel) (res : Res)
    (hwf : t.WF) (htr : t.Truthful σ) (hraw : t.RawSql) (h : applyOp st fuel (.u op) t {} = .ok res) :
    (res.get t).WF ∧ (res.get t).engine = t.engine :=
  let F := ((treeBuild_sound σ st fuel).apply op t res (raw_good σ t hwf htr hraw) h).2.1
  ⟨F.wf, F.engine⟩

theorem sql_conform_wellformed (σ : Leaves) (st : Store) (fuel : Nat) (t : Rel) (res : Res)
    (hwf : t.WF) (htr : t.Truthful σ) (hraw : t.RawSql) (h : conform st fuel t = .ok res) :
    (res.get t).WF ∧ (res.get t).engine = t.engine ∧ (res.get t).isSelect = true :=
  let C := ((treeBuild_sound σ st fuel).conform t res (raw_good σ t hwf htr hraw) h).2
  ⟨C.ok.wf, C.engine, C.ok.isSel⟩

theorem sql_history_trees_wellformed (σ : Leaves) (st : Store) (eng : Engine) (hk : eng.kind = .sql)
    (b : SqlBuild) (r : Rel) (hok : b.ok σ) (h : b.tree st eng = .ok r) :
    r.WF ∧ r.engine = eng ∧ (∀ c, c ∈ r.columns ↔ c ∈ b.cols) :=
  let B := sql_build_invariant σ st eng hk b r hok h
  ⟨B.good.wf, B.engine, B.cols⟩

theorem apply_with_options_wellformed (σ : Leaves) (st : Store) (fuel : Nat) (o : UOp) (t : Rel) (opts : Opts)
    (res : Res) (hkt : t.engine.kind = .iter) (hpk : ∀ p, opts.pref = some p → p.kind = .iter)
    (hwf : t.WF) (htr : t.Truthful σ) (hnd : o.isProj = true → t.spineNoDedup)
    (h : applyOp st (fuel+1) (.u o) t opts = .ok res) :
    (res.get t).WF ∧ ((res.get t).engine = t.engine ∨ (opts.transfer = true ∧ opts.pref = some (res.get t).engine)) :=
  let A := applyOp_sound σ st fuel o t opts res hkt hpk hwf htr hnd h
  ⟨A.wf, A.engine⟩

/-- **A back-tracked join returns a well-formed tree** (`relation.join(fixed)`, default options, target in an
iteration engine, fixed relation in a database - from `applyOp_pj_backtracked`, over the C03 induction
`backtrack_pj_holds`). -/
theorem join_with_backtracking_wellformed (σ : Leaves) (st : Store) (fuel : Nat) (p : PJoin) (t : Rel) (o : Opts)
    (hpref : o.pref = none ∨ o.pref = some p.fixed.engine) (hbt : o.backtrack = true) (htr : o.transfer = false)
    (hkt : t.engine.kind = .iter) (hks : p.fixed.engine.kind = .sql)
    (gF : Good NodeInv.triv σ p.fixed)
    (hfix0 : p.join.resolved = true → p.join.minCols.subset p.fixed.columns = true)
    (hwf : t.WF) (htrt : t.Truthful σ) (hpo : t.prefTargetsGood NodeInv.triv σ p.fixed.engine)
    (hnp : t.spineNoPayload st)
    (res : Res) (h : applyOp st fuel (.pj p) t o = .ok res) :
    (res.get t).WF ∧ (res.get t).engine = t.engine ∧
      (∀ x, x ∈ (res.get t).columns ↔ x ∈ p.fixed.columns ∨ x ∈ t.columns) := by
  obtain ⟨p', hb, B⟩ := applyOp_pj_backtracked σ st fuel p t o hpref hbt htr hkt hks gF hfix0 hwf htrt hpo hnp res h
  obtain ⟨f1, _⟩ := pjBeginApply_frame p t o.pref p' _ hb
  exact ⟨B.wf, B.engine, fun x => by rw [B.cols x, PJoin.mem_appliedColumns, f1]⟩

/-- A join returns a well-formed tree for EVERY combination of `backtrack` / `transfer` /
`require_preferred_engine`; only with `transfer=True` may the result live in the fixed relation's database. -/
theorem join_with_every_option_wellformed (σ : Leaves) (st : Store) (fuel : Nat) (p : PJoin) (t : Rel) (o : Opts)
    (hpref : o.pref = none ∨ o.pref = some p.fixed.engine)
    (hkt : t.engine.kind = .iter) (hks : p.fixed.engine.kind = .sql)
    (gF : Good NodeInv.triv σ p.fixed)
    (hfix0 : p.join.resolved = true → p.join.minCols.subset p.fixed.columns = true)
    (hwf : t.WF) (htrt : t.Truthful σ) (hpo : t.prefTargetsGood NodeInv.triv σ p.fixed.engine)
    (hnp : t.spineNoPayload st) (hts : o.transfer = true → transferSimplify p.fixed.engine t = none)
    (res : Res) (h : applyOp st fuel (.pj p) t o = .ok res) :
    (res.get t).WF ∧
      ((res.get t).engine = t.engine ∨ (o.transfer = true ∧ (res.get t).engine = p.fixed.engine)) ∧
      (∀ x, x ∈ (res.get t).columns ↔ x ∈ p.fixed.columns ∨ x ∈ t.columns) := by
  obtain ⟨p', hb, hres⟩ := applyOp_pj_all_options σ st fuel p t o hpref hkt hks gF hfix0 hwf htrt hpo hnp hts res h
  obtain ⟨f1, _⟩ := pjBeginApply_frame p t o.pref p' _ hb
  rcases hres with ⟨_, B⟩ | ⟨ht, J⟩
  · exact ⟨B.wf, Or.inl B.engine, fun x => by rw [B.cols x, PJoin.mem_appliedColumns, f1]⟩
  · exact ⟨J.wf, Or.inr ⟨ht, by rw [J.engine, f1]⟩, fun x => by rw [J.cols x, PJoin.mem_appliedColumns, f1]⟩

theorem processed_trees_wellformed (σ : Leaves) (sq0 : SqlState) (h0 : sq0.payload 0 = none) (t : Rel) (fuel : Nat)
    (matAs : Option String) (s : ProcState) (reg : Nat → Option (List Row)) (hm : t.MultiIter)
    (hsql : t.SqlSrcOK σ sq0) (T : TreeInv σ reg sq0 t s) (hf : t.size ≤ fuel)
    (res : Res) (b : Bool) (s' : ProcState) (h : (processRec σ fuel t matAs).run.run s = (.ok (res, b), s')) :
    (res.get t).WF ∧ (res.get t).IterOKs s'.st ∧ (res.get t).engine = t.engine := by
  obtain ⟨_, _, P⟩ := process_multi_iter σ h0 t fuel matAs s reg hm hsql T hf res b s' h
  exact ⟨P.inv.wf, P.exec, P.engine⟩

/-- Tie to the source: `Join._begin_apply`, as translated from the current Python source on this run, is the model's. -/
theorem bridge_join_begin_apply (j : JoinOp) (l r : Rel) : Gen.Join_begin_apply j l r = joinBeginApply j l r :=
  Bridge.Join_begin_apply_eq j l r

/-- The same for `Join.applied_common_columns`, which `join_common_columns_resolved` is about. -/
theorem bridge_join_applied_common_columns (j : JoinOp) (lcols rcols : Cols) :
    Gen.Join_applied_common_columns j lcols rcols = j.appliedCommonColumns lcols rcols :=
  Bridge.Join_applied_common_columns_eq j lcols rcols

/-- The same for `Join._finish_apply` (join-identity short-cuts, the refusal of operands in different engines and
of an unsupported predicate). -/
theorem bridge_join_finish_apply (j : JoinOp) (l r : Rel) :
    Gen.Join_finish_apply j l r = binaryFinishApply (.join j) l r :=
  Bridge.Join_finish_apply_eq j l r

end DafRel.Props.C14
