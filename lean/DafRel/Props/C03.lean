/-
Property C03 — preferred-engine (back-tracking) insertion never changes relation content.

Proved, partial (the exclusions follow the list).  `ApplyOK` (Spec/Backtrack.lean) is what `apply` promises: a
well-formed relation with the columns and the rows (values, multiplicity, order) of the operation applied to the
target's rows, in the target's engine or - only with `transfer=True` - in the preferred one; `BTok` what
`backtrack_unary` promises: a well-formed relation in the tree's engine that has this content (`done`) or gets it
when the operation is applied on top (not `done`).
  * `backtracking_sound`, `apply_with_options_sound`: target and preferred engine are iteration engines; `apply` with
    EVERY combination of `backtrack` / `transfer` / `require_preferred_engine`.  The induction over the tree uses the
    soundness of every commutation report (C04), of `_finish_apply` (C05), and a locality argument for partly
    inserted (widened) projections.  Hence `same_as_plain_application`: the same content as the call without options.
  * `apply_on_sql_target_sound`: a target in a SQL engine (any raw SQL tree incl. chains and joins), a preferred
    engine of either family: the SQL engine does not back-track, a transfer goes through `conform`, and `append_unary`
    in either engine does the rest (by the tree-building induction of C17).
  * `backtracking_sound_any_preferred_engine`, `apply_with_sql_preferred_engine_sound`: back-tracking from an
    iteration-engine target INTO a SQL engine - the operation is handed to the SQL engine's own `apply` below the
    transfer that leads there (`Rel.prefTargetsGood`: that subtree is one the SQL tree-building theorems cover, e.g.
    anything the SQL factories built) - with `backtrack` and `require_preferred_engine` in any combination and
    `transfer=False` (the default).
  * joins (`PartialJoin` with the fixed relation in a SQL preferred engine, target in an iteration engine):
    `join_backtracking_sound` for `backtrack_unary`, the `join_with_*_sound` for `relation.join(fixed)` end to end.
    Rows are compared as multisets, a join defines no order; the induction rests on every report of
    `PartialJoin.commute` (C04), `_finish_apply` (C05) and the SQL engine's join factory below the transfer (C17).
Excluded by hypothesis, not proved: a Projection back-tracked past a Deduplication (`spineNoDedup`;
this is the unsound pair of C04, finding F04); wherever a database is involved, a there-and-back pair of Transfers
that the transfer towards the preferred engine would strip (`transferSimplify .. = none`); for joins, an explicit
preferred engine other than the fixed relation's and payload-holding Transfers on the way (`spineNoPayload`); and
`transfer=True` towards a SQL preferred engine from an iteration-engine target combined with back-tracking: those
are validated by correspondence + oracle.

The statements hold of `backtrack_unary` as it stands in /repo, with the repairs of the defects #19, #21, #22 of
DESIGN.md section 12; of the library without them they are false.
-/
import DafRel.Lemmas.Backtrack
import DafRel.Lemmas.BacktrackJoin
import DafRel.Bridge.Ops
import DafRel.Bridge.RelOps
import DafRel.Bridge.JoinOps

namespace DafRel.Props.C03

open DafRel

theorem backtracking_sound (σ : Leaves) (st : Store) (pref : Engine) (hpk : pref.kind = .iter)
    (fuel : Nat) (o : UOp) (tree : Rel) (res : Res) (done : Bool)
    (hwf : tree.WF) (htr : tree.Truthful σ) (hop : o.wfOn tree.columns = true)
    (hnd : o.isProj = true → tree.spineNoDedup)
    (h : backtrack st fuel (.u o) tree pref = .ok (res, done)) : BTok σ o tree (res.get tree) done :=
  backtrack_sound σ st pref fuel o tree res done hwf htr hop hnd (prefTargetsGood_of_iter σ pref hpk tree) h

theorem backtracking_sound_any_preferred_engine (σ : Leaves) (st : Store) (pref : Engine)
    (fuel : Nat) (o : UOp) (tree : Rel) (res : Res) (done : Bool)
    (hwf : tree.WF) (htr : tree.Truthful σ) (hop : o.wfOn tree.columns = true)
    (hnd : o.isProj = true → tree.spineNoDedup) (hpo : tree.prefTargetsGood NodeInv.triv σ pref)
    (h : backtrack st fuel (.u o) tree pref = .ok (res, done)) : BTok σ o tree (res.get tree) done :=
  backtrack_sound σ st pref fuel o tree res done hwf htr hop hnd hpo h

theorem apply_with_sql_preferred_engine_sound (σ : Leaves) (st : Store) (fuel : Nat) (o : UOp) (t : Rel)
    (opts : Opts) (res : Res) (hkt : t.engine.kind = .iter) (hwf : t.WF) (htr : t.Truthful σ)
    (hnd : o.isProj = true → t.spineNoDedup) (hpo : ∀ p, opts.pref = some p → t.prefTargetsGood NodeInv.triv σ p)
    (htf : opts.transfer = false)
    (h : applyOp st (fuel+1) (.u o) t opts = .ok res) : ApplyOK σ o t (res.get t) opts :=
  applyOp_iter_target_transfer_sound σ st fuel o t opts res hkt hwf htr hnd hpo (fun ht => nomatch htf.symm.trans ht) h

/-- **`apply` with `transfer=True` (no back-tracking) towards a preferred engine of either family, from an
iteration-engine target**: the target is transferred - into a database the SQL engine conforms the new Transfer - and
the operation is applied there by the preferred engine's own `apply`.  (With `transfer=False` this is
`apply_with_sql_preferred_engine_sound`.) -/
theorem apply_with_transfer_to_preferred_engine_sound (σ : Leaves) (st : Store) (fuel : Nat) (o : UOp) (t : Rel)
    (opts : Opts) (res : Res) (hkt : t.engine.kind = .iter) (hwf : t.WF) (htr : t.Truthful σ)
    (hnd : o.isProj = true → t.spineNoDedup) (hpo : ∀ p, opts.pref = some p → t.prefTargetsGood NodeInv.triv σ p)
    (htf : opts.transfer = true → opts.backtrack = false ∧ ∀ p, opts.pref = some p → transferSimplify p t = none)
    (h : applyOp st (fuel+1) (.u o) t opts = .ok res) : ApplyOK σ o t (res.get t) opts :=
  applyOp_iter_target_transfer_sound σ st fuel o t opts res hkt hwf htr hnd hpo htf h

theorem apply_on_sql_target_sound (σ : Leaves) (st : Store) (fuel : Nat) (o : UOp) (t : Rel) (opts : Opts)
    (res : Res) (hwf : t.WF) (htr : t.Truthful σ) (hraw : t.RawSql)
    (hs : ∀ p, opts.pref = some p → transferSimplify p t = none)
    (h : applyOp st (fuel+1) (.u o) t opts = .ok res) : ApplyOK σ o t (res.get t) opts :=
  applyOp_sql_target_sound σ st fuel o t opts res (raw_good σ t hwf htr hraw) (fun _ => hs) h

theorem apply_with_options_sound (σ : Leaves) (st : Store) (fuel : Nat) (o : UOp) (t : Rel) (opts : Opts)
    (res : Res) (hkt : t.engine.kind = .iter) (hpk : ∀ p, opts.pref = some p → p.kind = .iter)
    (hwf : t.WF) (htr : t.Truthful σ) (hnd : o.isProj = true → t.spineNoDedup)
    (h : applyOp st (fuel+1) (.u o) t opts = .ok res) : ApplyOK σ o t (res.get t) opts :=
  applyOp_sound σ st fuel o t opts res hkt hpk hwf htr hnd h

theorem same_as_plain_application (σ : Leaves) (st : Store) (fuel : Nat) (o : UOp) (t : Rel) (opts : Opts)
    (res plain : Res) (hkt : t.engine.kind = .iter) (hpk : ∀ p, opts.pref = some p → p.kind = .iter)
    (hwf : t.WF) (htr : t.Truthful σ) (hnd : o.isProj = true → t.spineNoDedup)
    (h : applyOp st (fuel+1) (.u o) t opts = .ok res) (hp : applyOp st (fuel+1) (.u o) t {} = .ok plain) :
    sem σ (res.get t) = sem σ (plain.get t) ∧ (∀ x, x ∈ (res.get t).columns ↔ x ∈ (plain.get t).columns) := by
  have a := applyOp_sound σ st fuel o t opts res hkt hpk hwf htr hnd h
  have b := applyOp_sound σ st fuel o t {} plain hkt (fun p hp => by cases hp) hwf htr hnd hp
  exact ⟨by rw [a.sem_eq, b.sem_eq], fun x => (a.cols x).trans (b.cols x).symm⟩

/-- **A valid operation is never rejected with a column error because of where back-tracking tried
to put it.**  For an operation that is well-formed for the target, `apply` with ANY combination of
options raises nothing but the documented `EngineError` (an expression the engine does not support,
or `require_preferred_engine` that cannot be honoured) - `fuel` / `notImpl` are artefacts of the model
(recursion budget; a `sql.Select` inside an iteration-engine tree). -/
theorem valid_operation_never_column_error (σ : Leaves) (st : Store) (fuel : Nat) (o : UOp) (t : Rel)
    (opts : Opts) (e : Err) (hkt : t.engine.kind = .iter) (hpk : ∀ p, opts.pref = some p → p.kind = .iter)
    (hwf : t.WF) (htr : t.Truthful σ) (hop : o.wfOn t.columns = true)
    (hnd : o.isProj = true → t.spineNoDedup)
    (h : applyOp st (fuel+1) (.u o) t opts = .error e) : e = .engine ∨ e = .fuel ∨ e = .notImpl :=
  (applyOp_holds σ st fuel o t opts hkt hpk hwf htr hnd).of_error h hop

/-- **Back-tracking a join into a SQL preferred engine is sound.**  `p` is the partial join after `_begin_apply`
(common columns resolved, within the fixed relation's columns); its fixed relation is any relation the SQL
tree-building theorems cover, living in the preferred engine; `tree` is any well-formed, truthful tree on whose
columns the join is applicable, whose transfers out of the preferred engine lead to such SQL relations and hold no
payload yet. -/
theorem join_backtracking_sound (σ : Leaves) (st : Store) (pref : Engine) (hpk : pref.kind = .sql) (p : PJoin)
    (gF : Good NodeInv.triv σ p.fixed) (hfe : p.fixed.engine = pref)
    (hres : p.join.resolved = true) (hfix : p.join.minCols.subset p.fixed.columns = true)
    (fuel : Nat) (tree : Rel) (res : Res) (done : Bool)
    (hwf : tree.WF) (htr : tree.Truthful σ) (hop : p.columnsRequired.subset tree.columns = true)
    (hpo : tree.prefTargetsGood NodeInv.triv σ pref) (hnp : tree.spineNoPayload st)
    (h : backtrack st fuel (.pj p) tree pref = .ok (res, done)) :
    (done = false → res = .same) ∧
    (done = true →
      (res.get tree).WF ∧ (res.get tree).Truthful σ ∧ (res.get tree).engine = tree.engine ∧
      List.Perm (sem σ (res.get tree)) (p.semRows (sem σ p.fixed) (sem σ tree)) ∧
      (∀ x, x ∈ (res.get tree).columns ↔ x ∈ p.appliedColumns tree.columns)) := by
  obtain ⟨h1, h2⟩ := backtrack_pj_sound σ st pref hpk p gF hfe hres hfix fuel tree res done hwf htr hop hpo hnp h
  exact ⟨h1, fun hd => ⟨(h2 hd).wf, (h2 hd).truthful, (h2 hd).engine, (h2 hd).rows, (h2 hd).cols⟩⟩

/-- **`relation.join(fixed)` with back-tracking, end to end** (`PartialJoin.apply` with its default options: the
preferred engine is the fixed relation's, `backtrack=True`, `transfer=False`; any `require_preferred_engine`): for a
target in an iteration engine and a fixed relation in a database, WHENEVER THE CALL SUCCEEDS the join was back-tracked
into the database (`_begin_apply` resolved the common columns into `p'`; a join that cannot be moved all the way is
refused with `EngineError` by `Join.apply`, because its operands live in different engines). -/
theorem join_with_backtracking_sound (σ : Leaves) (st : Store) (fuel : Nat) (p : PJoin) (t : Rel) (o : Opts)
    (hpref : o.pref = none ∨ o.pref = some p.fixed.engine) (hbt : o.backtrack = true) (htr : o.transfer = false)
    (hkt : t.engine.kind = .iter) (hks : p.fixed.engine.kind = .sql)
    (gF : Good NodeInv.triv σ p.fixed)
    (hfix0 : p.join.resolved = true → p.join.minCols.subset p.fixed.columns = true)
    (hwf : t.WF) (htrt : t.Truthful σ) (hpo : t.prefTargetsGood NodeInv.triv σ p.fixed.engine)
    (hnp : t.spineNoPayload st)
    (res : Res) (h : applyOp st fuel (.pj p) t o = .ok res) :
    ∃ p', p.beginApply t o.pref = .ok (p', p.fixed.engine) ∧
      (res.get t).WF ∧ (res.get t).Truthful σ ∧ (res.get t).engine = t.engine ∧
      List.Perm (sem σ (res.get t)) (p'.semRows (sem σ p'.fixed) (sem σ t)) ∧
      (∀ x, x ∈ (res.get t).columns ↔ x ∈ p'.appliedColumns t.columns) := by
  obtain ⟨p', hb, B⟩ := applyOp_pj_backtracked σ st fuel p t o hpref hbt htr hkt hks gF hfix0 hwf htrt hpo hnp res h
  exact ⟨p', hb, B.wf, B.truthful, B.engine, B.rows, B.cols⟩

/-- **`relation.join(fixed, transfer=...)`, either value of `transfer`** (back-tracking on): whenever the call
succeeds, EITHER the join was back-tracked into the database and the result lives in the target's engine, OR - only
with `transfer=True` - back-tracking did not finish, the target was transferred into the database
(`conform(Transfer(target))`) and joined there, and the result lives in the preferred engine. -/
theorem join_with_backtracking_and_transfer_sound (σ : Leaves) (st : Store) (fuel : Nat) (p : PJoin) (t : Rel)
    (o : Opts) (hpref : o.pref = none ∨ o.pref = some p.fixed.engine) (hbt : o.backtrack = true)
    (hkt : t.engine.kind = .iter) (hks : p.fixed.engine.kind = .sql)
    (gF : Good NodeInv.triv σ p.fixed)
    (hfix0 : p.join.resolved = true → p.join.minCols.subset p.fixed.columns = true)
    (hwf : t.WF) (htrt : t.Truthful σ) (hpo : t.prefTargetsGood NodeInv.triv σ p.fixed.engine)
    (hnp : t.spineNoPayload st) (hts : o.transfer = true → transferSimplify p.fixed.engine t = none)
    (res : Res) (h : applyOp st fuel (.pj p) t o = .ok res) :
    ∃ p', p.beginApply t o.pref = .ok (p', p.fixed.engine) ∧
      (res.get t).WF ∧ (res.get t).Truthful σ ∧
      ((res.get t).engine = t.engine ∨ (o.transfer = true ∧ (res.get t).engine = p.fixed.engine)) ∧
      List.Perm (sem σ (res.get t)) (p'.semRows (sem σ p'.fixed) (sem σ t)) ∧
      (∀ x, x ∈ (res.get t).columns ↔ x ∈ p'.appliedColumns t.columns) := by
  obtain ⟨p', hb, B | ⟨ht, J⟩⟩ :=
    applyOp_pj_any_transfer σ st fuel p t o hpref hbt hkt hks gF hfix0 hwf htrt hpo hnp hts res h
  · exact ⟨p', hb, B.wf, B.truthful, Or.inl B.engine, B.rows, B.cols⟩
  · obtain ⟨f1, _⟩ := pjBeginApply_frame p t o.pref p' _ hb
    exact ⟨p', hb, J.wf, J.truthful, Or.inr ⟨ht, by rw [J.engine, f1]⟩, J.rows, J.cols⟩

/-- **A join applied with EVERY combination of `backtrack` / `transfer` / `require_preferred_engine`**: the result of
a call that succeeds lives in the target's engine (only possible with `backtrack=True`: the join was moved into the
database below a transfer) or in the preferred engine (only possible with `transfer=True`: the target was transferred
into the database and joined there).  With neither option the call raises (C20). -/
theorem join_with_every_option_sound (σ : Leaves) (st : Store) (fuel : Nat) (p : PJoin) (t : Rel)
    (o : Opts) (hpref : o.pref = none ∨ o.pref = some p.fixed.engine)
    (hkt : t.engine.kind = .iter) (hks : p.fixed.engine.kind = .sql)
    (gF : Good NodeInv.triv σ p.fixed)
    (hfix0 : p.join.resolved = true → p.join.minCols.subset p.fixed.columns = true)
    (hwf : t.WF) (htrt : t.Truthful σ) (hpo : t.prefTargetsGood NodeInv.triv σ p.fixed.engine)
    (hnp : t.spineNoPayload st) (hts : o.transfer = true → transferSimplify p.fixed.engine t = none)
    (res : Res) (h : applyOp st fuel (.pj p) t o = .ok res) :
    ∃ p', p.beginApply t o.pref = .ok (p', p.fixed.engine) ∧
      (res.get t).WF ∧ (res.get t).Truthful σ ∧
      ((o.backtrack = true ∧ (res.get t).engine = t.engine) ∨
        (o.transfer = true ∧ (res.get t).engine = p.fixed.engine)) ∧
      List.Perm (sem σ (res.get t)) (p'.semRows (sem σ p'.fixed) (sem σ t)) ∧
      (∀ x, x ∈ (res.get t).columns ↔ x ∈ p'.appliedColumns t.columns) := by
  obtain ⟨p', hb, ⟨hbt, B⟩ | ⟨ht, J⟩⟩ :=
    applyOp_pj_all_options σ st fuel p t o hpref hkt hks gF hfix0 hwf htrt hpo hnp hts res h
  · exact ⟨p', hb, B.wf, B.truthful, Or.inl ⟨hbt, B.engine⟩, B.rows, B.cols⟩
  · obtain ⟨f1, _⟩ := pjBeginApply_frame p t o.pref p' _ hb
    exact ⟨p', hb, J.wf, J.truthful, Or.inr ⟨ht, by rw [J.engine, f1]⟩, J.rows, J.cols⟩

/-- Tie to the source: the `commute` methods that `backtrack_unary` consults - including
`PartialJoin.commute` (sound by C04's `partial_join_commute_sound`) - are the current source's
(translators T-e / T-f). -/
theorem bridge_commute_used_by_backtracking (p : PJoin) (cur : UOp) (tcols ccols : Cols) :
    Gen.PartialJoin_commute p cur tcols ccols = p.commute cur tcols ccols ∧
    Gen.PartialJoin_columns_required p = p.columnsRequired ∧
    (∀ c, Gen.Projection_commute c cur tcols ccols = (UOp.proj c).commute cur tcols ccols) ∧
    (∀ tag e, Gen.Calculation_commute tag e cur tcols ccols = (UOp.calc tag e).commute cur tcols ccols) :=
  ⟨Bridge.PartialJoin_commute_eq p cur tcols ccols, Bridge.PartialJoin_columns_required_eq p,
   fun c => Bridge.Projection_commute_eq c cur tcols ccols,
   fun tag e => Bridge.Calculation_commute_eq tag e cur tcols ccols⟩

/-- Tie to the source: `PartialJoin._begin_apply` - the function the join theorems above are stated with
(`p.beginApply t o.pref`) - is, as translated from the current Python source on this run (translator T-f), the model's
(for every recursion budget of at least two: one level to resolve the common columns, one for the replacement). -/
theorem bridge_partial_join_begin_apply (fuel : Nat) (p : PJoin) (t : Rel) (pref : Option Engine) :
    Gen.PartialJoin_begin_apply (fuel+2) p t pref = p.beginApply t pref :=
  Bridge.PartialJoin_begin_apply_eq fuel p t pref

private def ta : Tag := ⟨"a", true⟩
private def tb : Tag := ⟨"b", true⟩
private def tx : Tag := ⟨"x", false⟩
private def e0 : Engine := ⟨0, .iter⟩
private def e1 : Engine := ⟨1, .iter⟩
private def leaf0 : Rel := .leaf 1 e0 [ta, tb] "L" 0 none true 0
/-- `σ[b](→[e1](L))`, then `+[x = a]` preferred in `e0` -/
private def tree0 : Rel := .unary (.sel (.ref tb)) (.transfer 2 e1 leaf0) [ta, tb]
private def opts0 : Opts := { pref := some e0, backtrack := true, transfer := false, require := false }

example : tree0.WF := ⟨trivial, rfl, by decide⟩
/-- the calculation is inserted upstream of the transfer, in the preferred engine -/
example : (applyOp [] defaultFuel (.u (.calc tx (.ref ta))) tree0 opts0).toOption.map
    (fun r => match r.get tree0 with
      | .unary (.sel _) (.transfer _ _ (.unary (.calc _ _) (.leaf ..) _)) _ => true
      | _ => false) = some true := by decide +kernel

private def es : Engine := ⟨2, .sql⟩
private def leafS : Rel := .leaf 3 es [ta, tb] "S" 0 none true 0
/-- a sorted SQL relation; a slice preferred in the iteration engine `e0`, with transfer -/
private def treeS : Rel := .unary (.sort [⟨.ref tb, false⟩]) leafS [ta, tb]
private def optsS : Opts := { pref := some e0, backtrack := true, transfer := true, require := false }
example : treeS.WF ∧ treeS.RawSql ∧ transferSimplify e0 treeS = none := ⟨⟨trivial, rfl, by decide⟩, rfl, rfl⟩
/-- the SQL tree is conformed, transferred, and the slice applied in the preferred engine -/
example : (applyOp [] defaultFuel (.u (.slice 1 (some 3))) treeS optsS).toOption.map
    (fun r => match r.get treeS with
      | .unary (.slice 1 (some 3)) (.transfer _ d (.select ..)) _ => d == e0
      | _ => false) = some true := by decide +kernel

/-- an iteration-engine selection over a relation transferred out of the SQL engine `es`;
a calculation preferred in `es` is handed to the SQL engine below the transfer -/
private def treeI : Rel := .unary (.sel (.ref tb)) (.transfer 4 e0 leafS) [ta, tb]
private def optsI : Opts := { pref := some es, backtrack := true, transfer := false, require := true }
example (σ : Leaves) (hσ : leafS.Truthful σ) : treeI.WF ∧ treeI.prefTargetsGood NodeInv.triv σ es :=
  ⟨⟨trivial, rfl, by decide⟩, ⟨fun _ _ => Good.atom _ rfl trivial hσ rfl trivial, trivial⟩⟩
example : (applyOp [] defaultFuel (.u (.calc tx (.ref ta))) treeI optsI).toOption.map
    (fun r => match r.get treeI with
      | .unary (.sel _) (.transfer _ _ (.select ..)) _ => true
      | _ => false) = some true := by decide +kernel

/-- an iteration-engine leaf; a selection preferred in the SQL engine `es` with `transfer=True`, no back-tracking:
the leaf is transferred into the database (a Select around the Transfer) and the selection applied there -/
private def optsT : Opts := { pref := some es, backtrack := false, transfer := true, require := false }
example : leaf0.WF ∧ transferSimplify es leaf0 = none ∧ leaf0.prefTargetsGood NodeInv.triv (fun _ => []) es :=
  ⟨trivial, rfl, trivial⟩
example : (applyOp [] defaultFuel (.u (.sel (.ref tb))) leaf0 optsT).toOption.map
    (fun r => (r.get leaf0).engine == es) = some true := by decide +kernel

/-- non-vacuity of `join_backtracking_sound`: the iteration-engine selection `treeI` over a relation transferred out
of the SQL engine `es`; a join on `a` with the SQL table `leafF` is moved upstream of the selection, into the
database below the transfer; the hypotheses hold -/
private def leafF : Rel := .leaf 5 es [ta, tx] "F" 0 none true 0
private def pjI : PJoin := ⟨⟨.lit true, [ta], some [ta]⟩, leafF, false⟩
example (σ : Leaves) (hσ : leafS.Truthful σ) (hF : leafF.Truthful σ) :
    Good NodeInv.triv σ pjI.fixed ∧ pjI.fixed.engine = es ∧ pjI.join.resolved = true ∧
      pjI.join.minCols.subset pjI.fixed.columns = true ∧ pjI.columnsRequired.subset treeI.columns = true ∧
      treeI.prefTargetsGood NodeInv.triv σ es ∧ treeI.spineNoPayload [] :=
  ⟨Good.atom _ rfl trivial hF rfl trivial, rfl, by decide, by decide, by decide,
   ⟨fun _ _ => Good.atom _ rfl trivial hσ rfl trivial, trivial⟩, ⟨rfl, trivial⟩⟩
/-- the whole call `treeI.join(leafF)` (automatic common columns, default options) succeeds: the join is made in the
database below the transfer, the selection stays on top -/
example : (applyOp [] defaultFuel (.pj ⟨⟨.lit true, [], none⟩, leafF, false⟩) treeI {}).toOption.map
    (fun r => match r.get treeI with
      | .unary (.sel _) (.transfer _ _ (.select ..)) _ => true
      | _ => false) = some true := by decide +kernel
example : (backtrack [] defaultFuel (.pj pjI) treeI es).toOption.map
    (fun r => r.2 && (match r.1.get treeI with
      | .unary (.sel _) (.transfer _ _ (.select ..)) _ => true
      | _ => false)) = some true := by decide +kernel

/-- non-vacuity of `join_with_every_option_sound`, the other two cases: without back-tracking but with `transfer=True`
the join lands in the database (the target is transferred there); with neither option the call raises -/
example : (applyOp [] defaultFuel (.pj ⟨⟨.lit true, [], none⟩, leafF, false⟩) treeI
      { backtrack := false, transfer := true }).toOption.map (fun r => (r.get treeI).engine == es) = some true ∧
    (applyOp [] defaultFuel (.pj ⟨⟨.lit true, [], none⟩, leafF, false⟩) treeI
      { backtrack := false, transfer := false }).toOption.isNone = true ∧
    transferSimplify es treeI = none := by decide +kernel

end DafRel.Props.C03
