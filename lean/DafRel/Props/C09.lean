/-
Property C09 — relations are persistent, hashable values; evaluation is side-effect free.

Of the three parts DESIGN.md (C09, "proof (partial)") says a theorem can carry, this file proves the first:
 (a) hashability: over the dataclass schema re-read from the live classes on every run, every node
     class of relation trees, operations and column expressions hashes by value, and no compared
     field is declared as a list or a mutable set (tuples/frozensets instead); fields of any other
     declared type, `Any` included, are taken to hold hashable values.
The other two have no theorem here:
 (b) value semantics of the model holds by construction: every tree-building function is a Lean *function* of its
     arguments (the model has no mutable state other than the payload store, which building never writes);
 (c) frame: executing only adds payloads to marker relations - `execute_respects_store`, C10.
Arbitrary Python-level mutation of shared objects cannot be exhibited by the model; that part is
tied by monitoring (fingerprints of every pool relation before/after every command).
-/
import DafRel.Bridge.Tables

namespace DafRel.Props.C09

open DafRel

/-- Every relation / operation / expression class is a frozen, eq-comparable dataclass none of whose
compared fields is declared as a list or a mutable set: by Python's dataclass rule an instance is
hashable, and equal instances have equal hashes, as soon as the values the caller supplies for the
remaining fields are (engines, tags, and the `Any`-typed `LeafRelation.parameters` and
`ColumnLiteral.value`, which `Bridge.classHashable` accepts unexamined). -/
theorem all_node_classes_hashable : Gen.schema.all Bridge.classHashable = true :=
  Bridge.all_node_classes_hashable

/-- In particular the two classes that defect #16 (DESIGN.md section 12) is about: a non-frozen `SortTerm` makes every
relation with a `Sort` unhashable, a list kept by `ColumnContainer.sequence` every such predicate. -/
theorem sortTerm_and_sequence_hashable :
    (Gen.schema.filter (fun r => r.1 == "SortTerm" || r.1 == "ColumnExpressionSequence")).all
      Bridge.classHashable = true ∧
    (Gen.schema.filter (fun r => r.1 == "SortTerm" || r.1 == "ColumnExpressionSequence")).length = 2 :=
  -- the two classes are in the table (`+kernel`: the string comparisons are run by the kernel only, not by the
  -- elaborator first), and every class in the table is hashable
  ⟨List.all_eq_true.mpr fun r hr => List.all_eq_true.mp all_node_classes_hashable r (List.mem_filter.mp hr).1,
    by decide +kernel⟩

end DafRel.Props.C09
