/-
Property C06 — static metadata (columns, row bounds, triviality flags) is truthful.

For every well-formed tree (any depth, all operations incl. join and chain) over truthful leaves.
-/
import DafRel.Lemmas.Metadata
import DafRel.Bridge.Kernel
import DafRel.Bridge.Tables

namespace DafRel.Props.C06

open DafRel

/-- Every row of the result has exactly the relation's columns as keys, and the number of rows
(duplicates included) lies within `[min_rows, max_rows]`. -/
theorem metadata_truthful (σ : Leaves) (t : Rel) (hwf : t.WF) (htr : t.Truthful σ) :
    (∀ r, r ∈ sem σ t → ∀ c, (r c).isSome = true ↔ c ∈ t.columns) ∧
    t.minRows ≤ (sem σ t).length ∧
    (∀ m, t.maxRows = some m → (sem σ t).length ≤ m) :=
  let m := DafRel.metadata_truthful σ t hwf htr
  ⟨m.keys, m.lower, m.upper⟩

/-- The per-operation step the induction rests on (the formulas of `applied_min_rows`,
`applied_max_rows`, `applied_columns` for all seven unary operations, all bounds). -/
theorem unary_metadata_step (op : UOp) (rows : List Row) (tcols : Cols) (mn : Nat) (mx : Option Nat)
    (h : MetaOK rows tcols mn mx) (hwf : op.wfOn tcols = true) :
    MetaOK (op.sem (op.appliedColumns tcols) rows) (op.appliedColumns tcols) (op.appliedMinRows mn)
      (op.appliedMaxRows tcols mx) :=
  UOp.meta_ok op rows tcols mn mx h hwf

/-- `is_join_identity` is truthful: such a relation is exactly one empty row — so eliding a join
with it, or answering `[{}]` without executing, does not change a result. -/
theorem join_identity_sound (σ : Leaves) (t : Rel) (hwf : t.WF) (htr : t.Truthful σ)
    (h : t.isJoinIdentity = true) : sem σ t = [Row.empty] :=
  joinIdentity_sound σ t hwf htr h

/-- `max_rows == 0` is truthful: the relation has no rows — so short-circuiting execution and
dropping such chain branches does not change a result. -/
theorem empty_sound (σ : Leaves) (t : Rel) (hwf : t.WF) (htr : t.Truthful σ)
    (h : t.maxRows = some 0) : sem σ t = [] :=
  maxRows_zero_sound σ t hwf htr h

/-- A relation with `is_trivial` has one row without columns, or none. -/
theorem trivial_sound (σ : Leaves) (t : Rel) (hwf : t.WF) (htr : t.Truthful σ)
    (h : t.isTrivial = true) : sem σ t = [Row.empty] ∨ sem σ t = [] := by
  rw [trivial_rows σ t hwf htr h]
  split
  · exact Or.inl rfl
  · exact Or.inr rfl

/-- Dropping a statically empty branch of a chain (what the processor does) keeps the rows. -/
theorem chain_prune_sound (σ : Leaves) (l r : Rel) (c : Cols) (hwf : (Rel.binary .chain l r c).WF)
    (htr : (Rel.binary .chain l r c).Truthful σ) :
    (l.maxRows = some 0 → sem σ (.binary .chain l r c) = sem σ r) ∧
    (r.maxRows = some 0 → sem σ (.binary .chain l r c) = sem σ l) := by
  refine ⟨fun h => ?_, fun h => ?_⟩ <;> show sem σ l ++ sem σ r = _
  · rw [maxRows_zero_sound σ l hwf.1 htr.1 h]; rfl
  · rw [maxRows_zero_sound σ r hwf.2.1 htr.2 h, List.append_nil]

/-! ### Tie to the source: the row-bound formulas proved about are the ones in the Python code -/

theorem bridge_slice_bounds (s : Nat) (e : Option Nat) (c : Cols) (tmin : Nat) (tmax : Option Nat) :
    Gen.Slice_applied_min_rows (.int s) (Bridge.optN e) (.int tmin)
      = .ok (.int ((UOp.slice s e).appliedMinRows tmin : Nat)) ∧
    Gen.Slice_applied_max_rows (.int s) (Bridge.optN e) (Bridge.optN tmax)
      = .ok (Bridge.optN ((UOp.slice s e).appliedMaxRows c tmax)) :=
  ⟨Bridge.Slice_applied_min_rows_eq s e tmin, Bridge.Slice_applied_max_rows_eq s e c tmax⟩

theorem bridge_dedup_bounds (c : Cols) (tmin : Nat) (tmax : Option Nat) :
    Gen.Deduplication_applied_min_rows (.int tmin) = .ok (.int (UOp.dedup.appliedMinRows tmin : Nat)) ∧
    Gen.Deduplication_applied_max_rows (.bool (!c.isEmpty)) (Bridge.optN tmax)
      = .ok (Bridge.optN (UOp.dedup.appliedMaxRows c tmax)) :=
  ⟨Bridge.Deduplication_applied_min_rows_eq tmin, Bridge.Deduplication_applied_max_rows_eq c tmax⟩

theorem bridge_binary_bounds (a b : Nat) (x y : Option Nat) :
    Gen.Chain_applied_min_rows (.int a) (.int b) = .ok (.int (BOp.chainMinRows a b : Nat)) ∧
    Gen.Chain_applied_max_rows (Bridge.optN x) (Bridge.optN y) = .ok (Bridge.optN (BOp.chainMaxRows x y)) ∧
    Gen.Join_applied_min_rows = .ok (.int 0) ∧
    Gen.Join_applied_max_rows (Bridge.optN x) (Bridge.optN y) = .ok (Bridge.optN (JoinOp.appliedMaxRows x y)) :=
  ⟨Bridge.Chain_applied_min_rows_eq a b, Bridge.Chain_applied_max_rows_eq x y, Bridge.Join_applied_min_rows_eq,
   Bridge.Join_applied_max_rows_eq x y⟩

theorem bridge_passthrough_bounds (p : Pred) (tmin : Nat) (tmax : Option Nat) :
    Gen.Selection_applied_min_rows = .ok (.int ((UOp.sel p).appliedMinRows tmin : Nat)) ∧
    Gen.Projection_applied_min_rows (.int tmin) = .ok (.int tmin) ∧
    Gen.Calculation_applied_min_rows (.int tmin) = .ok (.int tmin) ∧
    Gen.Reordering_applied_min_rows (.int tmin) = .ok (.int tmin) ∧
    Gen.Reordering_applied_max_rows (Bridge.optN tmax) = .ok (Bridge.optN tmax) ∧
    Gen.UnaryOperation_applied_max_rows (Bridge.optN tmax) = .ok (Bridge.optN tmax) :=
  ⟨rfl, rfl, rfl, rfl, rfl, rfl⟩

theorem bridge_triviality_flags (r : Rel) :
    Gen.Relation_is_join_identity (.bool (!r.columns.isEmpty)) (Bridge.optN r.maxRows) (.int r.minRows)
      = .ok (.bool r.isJoinIdentity) ∧
    Gen.Relation_is_trivial (.bool r.isJoinIdentity) (Bridge.optN r.maxRows) = .ok (.bool r.isTrivial) :=
  ⟨Bridge.Relation_is_join_identity_eq r, Bridge.Relation_is_trivial_eq r⟩

/-! ### Non-vacuity: a concrete well-formed tree over a truthful leaf -/

private def ta : Tag := ⟨"a", true⟩
private def leaf0 : Rel := .leaf 1 ⟨0, .iter⟩ [ta] "L" 2 (some 3) true 0
private def tree0 : Rel := .unary (.slice 1 (some 2)) (.unary .dedup leaf0 [ta]) [ta]
private def σ0 : Leaves := fun _ => [Row.empty.set ta 1, Row.empty.set ta 1, Row.empty.set ta 2]

example : tree0.WF := ⟨⟨trivial, rfl, rfl⟩, rfl, rfl⟩
example : tree0.minRows = 0 ∧ tree0.maxRows = some 1 := by decide
example : (sem σ0 tree0).length = 1 := by decide

end DafRel.Props.C06
