/-
Property C08 — every tree the factories accept can be compiled and executed.

Proved for the iteration engine (partial for the property as a whole): every construction history that the factory
model accepts (`Build.tree … = .ok r`, i.e. no ColumnError / EngineError / row-order error was raised while
building), under the preconditions of C01 (`Build.ok`, consistent marker ids), yields a tree whose execution SUCCEEDS -
no missing-column lookup (`KeyError`), no unsupported node, no assertion - and likewise every well-formed tree
(`C01.exec_tree_correct`).
For the SQL engine: compilation succeeds on every tree satisfying the invariant the engine maintains (`Good`, which
includes the shape `to_payload` handles: `Rel.compOK`) whose leaves and processed markers hold payloads
(`Rel.PayReady`); the tree-building induction (C17) proves that conform and the factories only ever build that shape.
That the database then ACCEPTS the generated SELECT is validated, not proved: every generated query is run on
SQLite by the check, and the model's acceptance judgement `Query.accepts` is compared with SQLite's verdict.
-/
import DafRel.Props.C01
import DafRel.Lemmas.SqlRunSound

namespace DafRel.Props.C08

variable {I : NodeInv}

open DafRel

theorem accepted_history_executes (σ : Leaves) (st : Store) (eng : Engine) (hk : eng.kind = .iter)
    (b : Build) (r : Rel) (hok : b.ok σ) (hb : b.tree st eng = .ok r) (hcons : r.MarkersConsistent σ) :
    ∀ e, exec σ eng r {} ≠ .error e := by
  obtain ⟨it, s', h, _⟩ := C01.history_exec_correct σ st eng hk b r hok hb hcons
  exact fun e he => nomatch h.symm.trans he

/-- Executing an accepted history succeeds, and iterating the result raises nothing either (no `KeyError` inside a lazy
callable). -/
theorem accepted_history_iterates (σ : Leaves) (st : Store) (eng : Engine) (hk : eng.kind = .iter)
    (b : Build) (r : Rel) (hok : b.ok σ) (hb : b.tree st eng = .ok r) (hcons : r.MarkersConsistent σ) :
    ∃ it s' rows, exec σ eng r {} = .ok (it, s') ∧ it.rows σ = .ok rows := by
  obtain ⟨it, s', h1, h2⟩ := C01.history_exec_correct σ st eng hk b r hok hb hcons
  exact ⟨it, s', _, h1, h2⟩

/-- The only exception `_finish_apply` can raise is the documented `EngineError`: merging and elision never produce an
internal error.  This holds for any operation on any tree: the proof uses neither `hwf` nor `hop`. -/
theorem finish_apply_raises_only_engine_error (σ : Leaves) (t : Rel) (op : UOp) (hwf : t.WF)
    (hop : op.wfOn t.columns = true) (e : Err) (h : op.finishApply t = .error e) : e = .engine :=
  finishApply_error_inv h

/-- `_select_to_executable` SUCCEEDS: no missing-column lookup (`KeyError`) in a SELECT list, an ORDER BY, a WHERE
term, an ON clause or a calculated column, and no unsupported node. -/
theorem sql_compile_never_fails (σ : Leaves) (s : SqlState) (fuel : Nat) (S : Rel) (ctr : Nat)
    (hg : Good I σ S) (hs : S.isSelect = true) (hrd : S.PayReady s)
    (hh : S.height ≤ fuel + 1) : ∃ q c, compileSelect s fuel S ctr = .ok (q, c) :=
  (compile_total σ s fuel).select S ctr hg hs hrd (hg.compOK hs false) hh

/-- The same for `to_payload`. -/
theorem sql_payload_never_fails (σ : Leaves) (s : SqlState) (fuel : Nat) (t : Rel) (ctr : Nat)
    (hg : Good I σ t) (hrd : t.PayReady s) (hsh : t.compOK false = true) (hh : t.height ≤ fuel) :
    ∃ p c, toPayload s fuel t ctr = .ok (p, c) ∧ PayDom p t.columns :=
  (compile_total σ s fuel).payload t ctr hg hrd hsh hh

/-- For every raw SQL tree (leaves, materializations, transfers, the seven unary operations, chains, joins - nested
to any depth); that conform produces the compilable shape is part of what is proved. -/
theorem conformed_tree_compiles (σ : Leaves) (s : SqlState) (st : Store) (fuel : Nat) (r : Rel) (c : Res)
    (hwf : r.WF) (htr : r.Truthful σ) (hraw : r.RawSql) (hc : conform st fuel r = .ok c)
    (hrd : (c.get r).PayReady s) (hh : (c.get r).height ≤ defaultFuel + 1) :
    ∃ q n, compileSelect s defaultFuel (c.get r) 0 = .ok (q, n) :=
  conformed_compiles σ s st r c (raw_good σ r hwf htr hraw) hc hrd hh

/-- The payload hypothesis on the INPUT tree (`treeBuild_sound` run with the node invariant `domInv`), provided the
joins of the conformed tree carry resolved common columns (decidable; what `Join._begin_apply` establishes). -/
theorem conformed_tree_compiles_of_ready_input (σ : Leaves) (s : SqlState) (st : Store) (fuel : Nat) (r : Rel) (c : Res)
    (hwf : r.WF) (htr : r.Truthful σ) (hraw : r.RawSql) (hc : conform st fuel r = .ok c)
    (hrd : r.PayReady s) (h0 : s.payload 0 = none) (hj : (c.get r).joinsResolved = true)
    (hh : (c.get r).height ≤ defaultFuel + 1) :
    ∃ q n, compileSelect s defaultFuel (c.get r) 0 = .ok (q, n) :=
  have g := raw_goodI σ r hwf htr hraw (atomsOK_of_payReady s h0 r hraw hrd)
  conformed_compiles σ s st r c g hc
    (((treeBuild_sound σ st fuel).conform r c g hc).1.payReady hj) hh

/-- Every construction history inside one SQL engine (any number of unary operations, chains, joins,
materializations). -/
theorem accepted_sql_history_compiles (σ : Leaves) (s : SqlState) (st : Store) (eng : Engine) (hk : eng.kind = .sql)
    (b : SqlBuild) (r : Rel) (c : Res) (hok : b.ok σ) (h : b.tree st eng = .ok r)
    (hc : conform st defaultFuel r = .ok c)
    (hrd : (c.get r).PayReady s) (hh : (c.get r).height ≤ defaultFuel + 1) :
    ∃ q n, compileSelect s defaultFuel (c.get r) 0 = .ok (q, n) :=
  conformed_compiles σ s st r c (sql_build_invariant σ st eng hk b r hok h).good hc hrd hh

/-! non-vacuity: a join of a sorted, sliced table with another one -/
private def ta : Tag := ⟨"a", true⟩
private def tb : Tag := ⟨"b", false⟩
private def tc : Tag := ⟨"c", false⟩
private def e0 : Engine := ⟨0, .sql⟩
private def h0 : SqlBuild :=
  .join (.op (.slice 0 (some 3)) (.op (.sort [⟨.ref tb, false⟩]) (.leaf 1 [ta, tb] "L" 0 none 0)))
    (.leaf 2 [ta, tc] "M" 0 none 0) (.lit true)
private def s0 : SqlState :=
  { payloads := [(1, tablePayload "L" 1 0 [ta, tb]), (2, tablePayload "M" 2 1 [ta, tc])], tables := [[], []] }
private def r0 : Rel := ((h0.tree [] e0).toOption).getD default
example : (r0.isSelect, r0.compOK false, decide (r0.height ≤ 100)) = (true, true, true) := by decide +kernel

end DafRel.Props.C08
