/-
Property C17 — SQL conform is idempotent, content-preserving, keeps SELECT markers coherent.

Proved for every recursion budget, about `conform`, the cases of `_append_unary_to_select`, `operation.apply(target)`
and `relation.join(rhs, predicate)` inside one SQL engine: each returns a coherent `Select` (`SelOK`: flagged compound
iff its skip target is a chain, recorded slots well-formed, the marked relation has the rows
slice(dedup(proj(sort(skip target))))) with the rows, columns and engine it should have; and `conform` returns a Select
unchanged.  `apply_skip_*` are about `Select.apply_skip`, the one place that builds the operation nodes between a
marker and its skip target from the recorded slots.
Not proved (validated by correspondence + structural oracle + SQLite): trees that already contain Select markers
not produced by the engine.  Factories called with a preferred engine / back-tracking / transfer options that take the
operation into another engine are the subject of C03.
-/
import DafRel.Lemmas.SelectBasics
import DafRel.Lemmas.ConformSound
import DafRel.Lemmas.SqlFactories
import DafRel.Bridge.SqlOps

namespace DafRel.Props.C17

variable {I : NodeInv}

open DafRel

theorem conform_select_is_same (st : Store) (fuel : Nat) (oid : Nat) (so : List SortTerm) (pr : Option Cols)
    (dd : Bool) (a : Nat) (b : Option Nat) (sk : Rel) (ic : Bool) (t : Rel) :
    conform st (fuel+1) (.select oid so pr dd a b sk ic t) = .ok .same :=
  conform_of_select st fuel _ rfl

/-- The Select that `apply_skip` returns records exactly the slots and skip target given, compound precisely when the
skip target is a chain ... -/
theorem apply_skip_records_slots (k : Rel) (sl : Slots) (r : Rel) (h : applySkip k sl = .ok r) :
    ∃ t, r = .select 0 sl.sort sl.proj sl.dedup sl.sliceStart sl.sliceStop k (isChain k) t :=
  applySkip_shape h

/-- ... and marks a relation with the rows of  slice(dedup(proj(sort(skip target))))  and the recorded columns,
whatever merging `_finish_apply` did at the top of the skip target. -/
theorem apply_skip_content (σ : Leaves) (k : Rel) (sl : Slots) (r : Rel) (hwf : k.WF) (htr : k.Truthful σ)
    (hsl : sl.wfOn k.columns) (h : applySkip k sl = .ok r) :
    r.WF ∧ r.Truthful σ ∧ sem σ r = sl.sem k.columns (sem σ k) ∧
      (∀ c, c ∈ r.columns ↔ c ∈ sl.columns k.columns) :=
  let ⟨a, b, c, d, _⟩ := applySkip_sound σ k sl r hwf htr hsl h
  ⟨a, b, c, d⟩

/-- A leaf, materialization or transfer is wrapped in a Select with nothing recorded that marks the relation itself. -/
theorem conform_marker_wraps (σ : Leaves) (st : Store) (fuel : Nat) (r : Rel)
    (hm : match r with
          | .leaf .. | .mat .. | .transfer .. => True
          | _ => False) :
    conform st (fuel+1) r = .ok (.new (.select 0 [] none false 0 none r (isChain r) r)) ∧
      sem σ (.select 0 [] none false 0 none r (isChain r) r) = sem σ r := by
  cases r with
  | leaf | mat | transfer => exact ⟨by rw [conform, applySkip_empty]; rfl, rfl⟩
  | _ => exact hm.elim

/-- Conforming a raw well-formed SQL tree of leaves, materializations, transfers, the seven unary operations, chains
and joins returns a coherent Select with the same rows, columns and engine. -/
theorem conform_preserves_rows (σ : Leaves) (st : Store) (fuel : Nat) (t : Rel) (res : Res)
    (hwf : t.WF) (htr : t.Truthful σ) (hraw : t.RawSql) (h : conform st fuel t = .ok res) :
    ConformOK σ t (res.get t) :=
  ((treeBuild_sound σ st fuel).conform t res (raw_good σ t hwf htr hraw) h).2

/-- ... and conforming that again returns it unchanged. -/
theorem conform_idempotent (σ : Leaves) (st : Store) (fuel fuel' : Nat) (t : Rel) (res : Res)
    (hwf : t.WF) (htr : t.Truthful σ) (hraw : t.RawSql) (h : conform st fuel t = .ok res) :
    conform st (fuel'+1) (res.get t) = .ok .same :=
  conform_of_select st fuel' _ (conform_preserves_rows σ st fuel t res hwf htr hraw h).ok.isSel

/-- Each case of `_append_unary_to_select` (merge into the recorded slots, apply below the slots, nest in a subquery,
push a projection into the branches of a UNION) returns a coherent Select with exactly the rows of the operation
applied to the given one (Lemmas/SelectSound.lean).  `hpush` assumes this of the recursive `apply` on the branches of
a UNION; the induction of Lemmas/ConformSound.lean discharges it. -/
theorem append_unary_to_select_sound (σ : Leaves) (st : Store) (fuel : Nat) (op : UOp) (S : Rel) (res : Res)
    (hS : SelOK σ S) (hop : op.wfOn S.columns = true)
    (hpush : ∀ c, op = .proj c → ∀ l r cc, S.skipTo = .binary .chain l r cc → ∀ x res', (x = l ∨ x = r) →
      applyOp st fuel (.u (.proj c)) x {} = .ok res' →
      Good I σ (res'.get x) ∧ FinishOK σ (.proj c) x (res'.get x) ∧ (res'.get x).isSelect = true)
    (h : appendUnarySel st (fuel+1) (.u op) S = .ok res) : AppendOK σ op S (res.get S) :=
  (appendUnarySel_sound σ st fuel op S res hS hop hpush h).1

/-- `operation.apply(target)` (a unary operation, default options) inside the SQL engine. -/
theorem sql_apply_sound (σ : Leaves) (st : Store) (fuel : Nat) (op : UOp) (t : Rel) (res : Res)
    (hwf : t.WF) (htr : t.Truthful σ) (hraw : t.RawSql) (h : applyOp st fuel (.u op) t {} = .ok res) :
    FinishOK σ op t (res.get t) :=
  ((treeBuild_sound σ st fuel).apply op t res (raw_good σ t hwf htr hraw) h).2.1

/-- `relation.join(rhs, predicate)` inside one SQL engine - `PartialJoin` through `apply` with automatic resolution of
the common columns, then `_append_binary_to_select(Join)` stripping the operands' projections, guarding hidden
columns, re-projecting (Lemmas/ConformSound.lean `join_sel_sound`) - returns a coherent Select with exactly the rows of
the join on some columns `common` of both operands (which columns, the statement does not say). -/
theorem sql_join_factory_sound (σ : Leaves) (st : Store) (t rhs : Rel) (pred : Pred) (bt tr : Bool) (res : Res)
    (hwt : t.WF) (htt : t.Truthful σ) (hrt : t.RawSql) (hwr : rhs.WF) (htr : rhs.Truthful σ) (hrr : rhs.RawSql)
    (heng : rhs.engine = t.engine) (h : Rel.joinWith st t rhs pred bt tr = .ok res) :
    ∃ common T, res = .new T ∧ SelOK σ T ∧
      sem σ T = joinRows common pred (sem σ t) (sem σ rhs) ∧
      (∀ c, c ∈ T.columns ↔ c ∈ t.columns.union rhs.columns) ∧ T.engine = t.engine ∧
      common.subset rhs.columns = true ∧ common.subset t.columns = true := by
  -- `joinWith t rhs pred` is `Join(pred).partial(rhs).apply(t)`: `applyOp` of the `PJoin` `⟨⟨pred, [], none⟩, rhs, false⟩`,
  -- i.e. `join := {pred, minCols := [], maxCols := none}` (columns unresolved), `fixed := rhs`, `fixedIsLhs := false`
  unfold Rel.joinWith JoinOp.make at h
  obtain ⟨common, T, hT, _, okT, semT, colT, engT, c1, c2, _⟩ :=
    applyOp_pj_sound σ st defaultFuel ⟨⟨pred, [], none⟩, rhs, false⟩ t { backtrack := bt, transfer := tr }
      (raw_good σ t hwt htt hrt) (raw_good σ rhs hwr htr hrr) rfl heng nofun res h
  exact ⟨common, T, hT, okT, semT, colT, engT, c1, c2⟩

/-- What `apply` returns is a Select, so conforming it returns the same object. -/
theorem factory_results_are_conformed (σ : Leaves) (st : Store) (fuel fuel' : Nat) (op : UOp) (t : Rel) (res : Res)
    (hwf : t.WF) (htr : t.Truthful σ) (hraw : t.RawSql) (h : applyOp st fuel (.u op) t {} = .ok res) :
    (res.get t).isSelect = true ∧ conform st (fuel'+1) (res.get t) = .ok .same :=
  have hs := ((treeBuild_sound σ st fuel).apply op t res (raw_good σ t hwf htr hraw) h).2.2
  ⟨hs, conform_of_select st fuel' _ hs⟩

/-- Tie to the source: `sql.Select.apply_skip`, as translated from the current Python source on this run
(translator T-f), is the model's `applySkip`. -/
theorem bridge_select_apply_skip (skipTo : Rel) (sl : Slots) :
    Gen.Select_apply_skip skipTo sl = applySkip skipTo sl :=
  Bridge.Select_apply_skip_eq skipTo sl

private def ta : Tag := ⟨"a", true⟩
private def tb : Tag := ⟨"b", false⟩
private def e0 : Engine := ⟨0, .sql⟩
private def leaf0 : Rel := .leaf 1 e0 [ta, tb] "L" 0 none true 0
example : (applySkip leaf0 { sort := [⟨.ref tb, false⟩], proj := some [ta], sliceStop := some 2 }).toOption.map
    (fun r => (r.isSelect, r.isCompound, r.columns)) = some (true, false, [ta]) := by decide +kernel
example : ({ sort := [⟨.ref tb, false⟩], proj := some [ta], sliceStop := some 2 } : Slots).wfOn leaf0.columns :=
  ⟨by decide, fun c hc => by cases hc; decide⟩

private def raw0 : Rel :=
  .unary (.slice 1 (some 3)) (.unary (.sort [⟨.ref tb, false⟩]) (.binary .chain leaf0 leaf0 [ta, tb]) [ta, tb]) [ta, tb]
example : raw0.WF := ⟨⟨⟨trivial, trivial, rfl, fun _ => Iff.rfl⟩, rfl, by decide⟩, rfl, by decide⟩
example : raw0.RawSql := ⟨rfl, rfl, trivial⟩
/-- conform succeeds on it, with a compound Select recording the sort and the slice -/
example : (conform [] 20 raw0).toOption.map
    (fun r => ((r.get raw0).isSelect, (r.get raw0).isCompound, (r.get raw0).slots.sliceStart,
      (r.get raw0).slots.sort.length)) = some (true, true, 1, 1) := by decide +kernel

private def tc : Tag := ⟨"c", false⟩
private def leaf1 : Rel := .leaf 2 e0 [ta, tc] "M" 0 none true 0
private def j0 : JoinOp := ⟨.lit true, [ta], some [ta]⟩
/-- a join whose left operand hides column `b` behind a projection -/
private def raw1 : Rel := .binary (.join j0) (.unary (.proj [ta]) leaf0 [ta]) leaf1 [ta, tc]
example : raw1.WF := ⟨⟨trivial, rfl, by decide⟩, trivial, by decide, by decide, by decide⟩
example : raw1.RawSql := ⟨rfl, rfl, by decide, rfl⟩
/-- conform strips the projection for the join and re-projects afterwards -/
example : (conform [] 20 raw1).toOption.map
    (fun r => ((r.get raw1).isSelect, (r.get raw1).slots.proj, (r.get raw1).skipTo.columns)) =
      some (true, some [ta, tc], [ta, tb, tc]) := by decide +kernel

end DafRel.Props.C17
