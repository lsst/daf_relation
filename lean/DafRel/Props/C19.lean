/-
Property C19 — generated relation names are unique across all calls and threads.

The theorems speak about ANY multiset of requests with ANY counter values (whatever interleaving
produced them): uniqueness rests on the fixed-width uuid suffix alone.  `FreshUuids` (pairwise
distinct 32-character hex strings; collision probability 2^-122 per pair) and the atomicity of
the modelled steps are the stated assumptions.
-/
import DafRel.Model.Names
import DafRel.Bridge.Tables

namespace DafRel.Props.C19

open DafRel.Names

theorem formatName_eq (pfx : List Char) (c : Nat) (hex : List Char) :
    formatName pfx c hex = pfx ++ ['_'] ++ padNat 4 c ++ ['_'] ++ hex := by
  simp [formatName, render, modelFormat, renderPart]

theorem name_has_prefix (pfx : List Char) (c : Nat) (hex : List Char) :
    pfx <+: formatName pfx c hex := by
  rw [formatName_eq]
  exact ⟨['_'] ++ padNat 4 c ++ ['_'] ++ hex, by simp⟩

/-- Two names built from different (equally long) uuid suffixes differ — whatever the prefixes
and whatever the counter values (equal counters included). -/
theorem names_differ_of_uuids_differ (p1 p2 : List Char) (c1 c2 : Nat) (h1 h2 : List Char)
    (hl : h1.length = h2.length) (hne : h1 ≠ h2) : formatName p1 c1 h1 ≠ formatName p2 c2 h2 := by
  intro heq
  rw [formatName_eq, formatName_eq] at heq
  exact hne (List.append_inj_right' heq hl)

/-- A request: prefix, the counter value it happened to read, the uuid it drew. -/
structure Req where
  pfx : List Char
  counter : Nat
  hex : List Char

def FreshUuids (rs : List Req) : Prop :=
  (∀ r, r ∈ rs → r.hex.length = 32) ∧ rs.Pairwise (fun a b => a.hex ≠ b.hex)

/-- **Names are pairwise distinct over any history of requests** — sequential or interleaved, on
one or many engines — as long as the uuids are fresh. -/
theorem names_distinct (rs : List Req) (h : FreshUuids rs) :
    (rs.map (fun r => formatName r.pfx r.counter r.hex)).Pairwise (· ≠ ·) := by
  rw [List.pairwise_map]
  refine h.2.imp_of_mem ?_
  intro a b ha hb hne
  exact names_differ_of_uuids_differ _ _ _ _ _ _ (by rw [h.1 a ha, h.1 b hb]) hne

/-- The counter alone does NOT make names unique: a two-thread interleaving in which both
threads read the counter before either increments it yields equal counter fields.  (So the
uuid suffix is what carries the property; a change that drops it is a violation.) -/
theorem counter_alone_not_unique :
    let t (h : String) : Thread := { pfx := "leaf".toList, hexes := [h.toList] }
    let w := run { threads := [t "a", t "b"] } [0, 1, 0, 1, 0, 1]
    w.names = ["leaf_0000_a".toList, "leaf_0000_b".toList] := by
  intro t w
  dsimp only [w, t]
  -- A string literal is `String.ofList` of its characters, so `String.toList_ofList` reads them back by a
  -- rewrite; left to `decide`, each `"…".toList` is a UTF-8 decoding of a byte array run in the kernel.
  repeat rw [String.toList_ofList]
  decide +kernel

/-- In the same racy history the real format (with distinct uuids) still yields distinct names. -/
example :
    let t (h : String) : Thread := { pfx := "leaf".toList, hexes := [h.toList] }
    let w := run { threads := [t "0123456789abcdef0123456789abcdef", t "fedcba9876543210fedcba9876543210"] }
      [0, 1, 0, 1, 0, 1]
    w.names.Pairwise (· ≠ ·) := by
  intro t w
  dsimp only [w, t]
  repeat rw [String.toList_ofList]
  decide +kernel

/-- Tie to the source: the f-string in `get_relation_name` (re-read from /repo on every run) is
prefix, '_', zero-padded counter, '_', 32-hex uuid; the counter is incremented after formatting. -/
theorem bridge_name_format : Gen.nameFormat = modelFormat ∧
    Gen.nameSteps = ["format", "increment", "return"] ∧ Gen.nameIncrement = 1 :=
  ⟨Bridge.nameFormat_eq, Bridge.nameSteps_eq.1, Bridge.nameSteps_eq.2⟩

/-- Non-vacuity of `FreshUuids`. -/
example : FreshUuids [⟨"leaf".toList, 0, "0123456789abcdef0123456789abcdef".toList⟩,
                      ⟨"leaf".toList, 0, "fedcba9876543210fedcba9876543210".toList⟩] := by
  repeat rw [String.toList_ofList]
  refine ⟨?_, ?_⟩ <;> decide

end DafRel.Props.C19
