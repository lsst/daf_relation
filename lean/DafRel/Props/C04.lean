/-
Property C04 — commutation reports are sound for every operation pair and target.

Quantifiers: all pairs (new operation `self`, existing operation `cur`) of the seven unary operation classes with
arbitrary parameters, all target column sets, all row lists whose rows have exactly the target's columns.

`commuteSoundAt self cur tcols l` (Spec/Commute.lean) says, for the report
`self.commute(cur applied to a target with columns tcols)`, when a first operation is reported: it is well-formed on
the target, the reported second operation is well-formed on its result, and
  - done:     second(first(l))        = self(cur(l))   (same rows, same order, same columns)
  - partial:  self(second(first(l)))  = self(cur(l))   and `self` is well-formed there.
When no move is reported the existing operation is handed back unchanged (`commute_none_keeps`).

THE FULL STATEMENT IS FALSE OF THE CURRENT CODE for exactly one pair: a Projection is reported as movable upstream of a
Deduplication (known finding F04; `commute_proj_dedup_unsound` is the machine-checked witness, replayed against the
implementation by the check).  The theorem proved is therefore `commute_sound_partial`, which excludes that pair and
nothing else.

`PartialJoin.commute` (a join with one operand held fixed, moved upstream of an existing unary operation) is covered by
`partial_join_commute_sound`: a reported move is complete, both operations are well-formed where they land, and the
rows are those of joining at the root - as a multiset always, and as a list unless the existing operation is a Sort and
the fixed relation is the left operand (with the target as the left, outer operand a stable sort commutes with the
expansion of each target row: `isort_flatMap`).  A join defines no row order;
`partial_join_past_sort_is_not_order_exact` shows that list equality does fail in that one case.
-/
import DafRel.Lemmas.Commute
import DafRel.Lemmas.JoinCommute
import DafRel.Bridge.Tables
import DafRel.Bridge.Ops
import DafRel.Bridge.RelOps

namespace DafRel.Props.C04

open DafRel

/-- **C04 (all pairs but projection-over-deduplication).** -/
theorem commute_sound_partial (self cur : UOp) (tcols : Cols) (l : List Row)
    (hl : RowsHaveCols l tcols) (hcur : cur.wfOn tcols = true)
    (hself : self.wfOn (cur.appliedColumns tcols) = true)
    (hex : ∀ c, self = .proj c → cur.isDedup = false) :
    commuteSoundAt self cur tcols l :=
  commute_sound self cur tcols l hl hcur hself hex

theorem commute_none_keeps (self cur : UOp) (tcols ccols : Cols)
    (h : (self.commute cur tcols ccols).first = none) : (self.commute cur tcols ccols).second = cur := by
  rw [UOp.commute_none self cur tcols ccols h]; rfl

/-- **The excluded pair really is unsound** (finding F04): deduplicate-then-project keeps two
rows that differ only in a dropped column, project-then-deduplicate keeps one. -/
theorem commute_proj_dedup_unsound :
    ∃ (cols tcols : Cols) (l : List Row), RowsHaveCols l tcols ∧
      (UOp.dedup).wfOn tcols = true ∧ (UOp.proj cols).wfOn tcols = true ∧
      ¬ commuteSoundAt (.proj cols) .dedup tcols l := by
  let a : Tag := ⟨"a", true⟩
  let b : Tag := ⟨"b", true⟩
  let mk : Int → Row := fun v t => if t = a then some 1 else if t = b then some v else none
  have hmk : ∀ v, RowHasCols (mk v) [a, b] := fun v => (RowHasCols.none.ite_cons b v).ite_cons a 1
  refine ⟨[a], [a, b], [mk 1, mk 2], .cons (hmk 1) (.cons (hmk 2) (.nil _)), rfl, by decide, fun h => ?_⟩
  have := congrArg List.length
    (((commuteSoundAt_iff (f := .proj [a]) (second := .dedup) (cdone := true) rfl).mp h).2.2.1 rfl).1
  revert this
  decide +kernel

/-- **C04 for joins.**  The partial join is well-formed at the root: its `columns_required` are columns of `cur`'s
result. -/
theorem partial_join_commute_sound (p : PJoin) (cur : UOp) (tcols : Cols) (F l : List Row)
    (hl : RowsHaveCols l tcols) (hF : RowsHaveCols F p.fixed.columns)
    (hcur : cur.wfOn tcols = true)
    (hp : p.columnsRequired.subset (cur.appliedColumns tcols) = true) :
    pjoinCommuteSoundAt p cur tcols F l :=
  pjoin_commute_sound p cur tcols F l hl hF hcur hp

private def tf : Tag := ⟨"f", true⟩
private def tA : Tag := ⟨"a", true⟩
private def fixedLeaf : Rel := .leaf 1 ⟨0, .sql⟩ [tf] "F" 0 none true 0
private def pjF : PJoin := ⟨⟨.lit true, [], some []⟩, fixedLeaf, true⟩
private def rowF (v : Int) : Row := fun t => if t = tf then some v else none
private def rowA (v : Int) : Row := fun t => if t = tA then some v else none

private theorem rowF_cols (v : Int) : RowHasCols (rowF v) [tf] := RowHasCols.none.ite_cons tf v

private theorem rowA_cols (v : Int) : RowHasCols (rowA v) [tA] := RowHasCols.none.ite_cons tA v

/-- With the fixed relation on the left the nested-loop join of the reference semantics groups its result by the
fixed row: joining the sorted target is not the sorted join, although `PartialJoin.commute` (rightly - a join
promises no order) reports the move. -/
theorem partial_join_past_sort_is_not_order_exact :
    ∃ (p : PJoin) (ts : List SortTerm) (tcols : Cols) (F l : List Row),
      RowsHaveCols l tcols ∧ RowsHaveCols F p.fixed.columns ∧ (UOp.sort ts).wfOn tcols = true ∧
      p.columnsRequired.subset tcols = true ∧
      (p.commute (.sort ts) tcols tcols).1.isSome = true ∧
      (UOp.sort ts).sem (p.appliedColumns tcols) (p.semRows F l) ≠ p.semRows F ((UOp.sort ts).sem tcols l) := by
  refine ⟨pjF, [⟨.ref tA, true⟩], [tA], [rowF 1, rowF 2], [rowA 2, rowA 1],
    .cons (rowA_cols 2) (.cons (rowA_cols 1) (.nil _)), .cons (rowF_cols 1) (.cons (rowF_cols 2) (.nil _)),
    by decide, by decide, by decide, fun h => ?_⟩
  have := congrArg (fun rows => rows.map (fun r : Row => r.proj [tf, tA])) h
  revert this
  decide +kernel

/-- non-vacuity of `partial_join_commute_sound`: a join on a common column `a` with a fixed relation `{a, f}`
moves upstream of a Selection on `a`, and the hypotheses hold -/
example :
    let p : PJoin := ⟨⟨.lit true, [tA], some [tA]⟩, .leaf 1 ⟨0, .sql⟩ [tA, tf] "F" 0 none true 0, false⟩
    (p.commute (.sel (.ref tA)) [tA] [tA]).1.isSome = true ∧ (UOp.sel (.ref tA)).wfOn [tA] = true ∧
      p.columnsRequired.subset [tA] = true := by decide

/-- `is_count_dependent` / `is_order_dependent` of every operation class, as re-read from the
source on this run, are the model's. -/
theorem bridge_flags : Gen.flags = Bridge.modelFlags := Bridge.flags_eq

/-- **Tie to the source.**  The six `commute` methods, as translated from the current Python source on this run
(Gen/Ops.lean, translator T-e), are the model's `UOp.commute`. -/
theorem bridge_commute_methods (cur : UOp) (tcols ccols : Cols) :
    (∀ tag e, Gen.Calculation_commute tag e cur tcols ccols = (UOp.calc tag e).commute cur tcols ccols) ∧
    (Gen.Deduplication_commute cur tcols ccols = UOp.dedup.commute cur tcols ccols) ∧
    (∀ c, Gen.Projection_commute c cur tcols ccols = (UOp.proj c).commute cur tcols ccols) ∧
    (∀ p, Gen.Selection_commute p cur tcols ccols = (UOp.sel p).commute cur tcols ccols) ∧
    (∀ s e, Gen.Slice_commute s e cur tcols ccols = (UOp.slice s e).commute cur tcols ccols) ∧
    (∀ ts, Gen.Sort_commute ts cur tcols ccols = (UOp.sort ts).commute cur tcols ccols) :=
  ⟨fun tag e => Bridge.Calculation_commute_eq tag e cur tcols ccols,
   Bridge.Deduplication_commute_eq cur tcols ccols,
   fun c => Bridge.Projection_commute_eq c cur tcols ccols,
   fun p => Bridge.Selection_commute_eq p cur tcols ccols,
   fun s e => Bridge.Slice_commute_eq s e cur tcols ccols,
   fun ts => Bridge.Sort_commute_eq ts cur tcols ccols⟩

/-- The same for `PartialJoin.commute` and `PartialJoin.columns_required`. -/
theorem bridge_partial_join (p : PJoin) (cur : UOp) (tcols ccols : Cols) :
    Gen.PartialJoin_commute p cur tcols ccols = p.commute cur tcols ccols ∧
      Gen.PartialJoin_columns_required p = p.columnsRequired :=
  ⟨Bridge.PartialJoin_commute_eq p cur tcols ccols, Bridge.PartialJoin_columns_required_eq p⟩

/-! Non-vacuity of `commute_sound_partial` -/

private def ta : Tag := ⟨"a", true⟩
private def tb : Tag := ⟨"b", false⟩
private def tx : Tag := ⟨"x", false⟩

/-- a sort by `b` moves upstream of a calculation of `x` from `a` -/
example : ((UOp.sort [⟨.ref tb, false⟩]).commute (.calc tx (.ref ta)) [ta, tb] [ta, tb, tx]).done = true := by
  decide

example : (UOp.calc tx (.ref ta)).wfOn [ta, tb] = true ∧
    (UOp.sort [⟨.ref tb, false⟩]).wfOn ((UOp.calc tx (.ref ta)).appliedColumns [ta, tb]) = true := by decide

/-- a projection that needs widening is reported as a partial move -/
example : ((UOp.proj [ta]).commute (.sel (.ref tb)) [ta, tb] [ta, tb]).done = false := by decide

end DafRel.Props.C04
