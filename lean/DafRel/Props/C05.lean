/-
Property C05 — merging and eliding adjacent operations preserves semantics and never rejects.

Quantifiers: all pairs of operations, all natural slice bounds and `None`, all sort-term lists
(repeated / opposite-direction terms included), all predicates, all targets (any well-formed tree
over truthful leaves, any row list).
-/
import DafRel.Lemmas.FinishApply
import DafRel.Bridge.Kernel
import DafRel.Bridge.Ops

namespace DafRel.Props.C05

open DafRel

/-- `Slice.then` never raises: for ALL bounds the composition is a slice (empty when the second
window starts past the end of the first). -/
theorem slice_then_total (s1 : Nat) (e1 : Option Nat) (s2 : Nat) (e2 : Option Nat) :
    ∃ s e, UOp.sliceThen s1 e1 s2 e2 = .ok (.slice s e) :=
  ⟨_, _, sliceThen_eq s1 e1 s2 e2⟩

/-- The merged slice selects exactly the rows `[s1:e1]` then `[s2:e2]` select, for every list. -/
theorem slice_then_sound {α : Type} (s1 : Nat) (e1 : Option Nat) (s2 : Nat) (e2 : Option Nat)
    (s : Nat) (e : Option Nat) (h : UOp.sliceThen s1 e1 s2 e2 = .ok (.slice s e)) (l : List α) :
    sliceList s e l = sliceList s2 e2 (sliceList s1 e1 l) :=
  (sliceThen_sound s1 e1 s2 e2 s e h l).symm

/-- `Sort.then`: one stable sort by the merged terms equals the two stable sorts in sequence
(later duplicates of a term are irrelevant; opposite-direction repeats are kept and dead). -/
theorem sort_then_sound (first second : List SortTerm) (l : List Row) :
    isort (lexLe (UOp.sortThen first second)) l = isort (lexLe second) (isort (lexLe first) l) :=
  isort_sortThen first second l

/-- Selection after selection: the merged (and re-normalised) predicate filters like both. -/
theorem selection_merge_sound (q p : Pred) (l : List Row) :
    (UOp.mkSel (.and [q, p])).sem [] l = (UOp.sel p).sem [] ((UOp.sel q).sem [] l) :=
  UOp.mkSel_and_sem q p [] [] [] l

/-- The general statement: whatever `simplify` returns for a valid pair is equivalent to the
two operations in sequence (or the new operation does nothing when the upstream is kept), has
the same columns, is itself valid, and `simplify` never raises. -/
theorem simplify_sound (new up : UOp) (tcols : Cols) (l : List Row)
    (hup : up.wfOn tcols = true) (hnew : new.wfOn (up.appliedColumns tcols) = true) :
    match new.simplify up with
    | .error _ => False
    | .ok .no => True
    | .ok .keepUpstream =>
      ∀ c, new.sem c (up.sem (up.appliedColumns tcols) l) = up.sem (up.appliedColumns tcols) l
    | .ok (.replace m) =>
      (∀ c1 c2, m.sem c1 l = new.sem c2 (up.sem (up.appliedColumns tcols) l)) ∧
      m.appliedColumns tcols = new.appliedColumns (up.appliedColumns tcols) ∧
      m.wfOn tcols = true :=
  DafRel.simplify_sound new up tcols l hup hnew

/-- Merging never raises, for ANY pair of operation objects. -/
theorem simplify_total (new up : UOp) (e : Err) : new.simplify up ≠ .error e :=
  DafRel.simplify_total new up e

/-- Applying an operation at a node (`_finish_apply`, with its recursive re-simplification
through any number of upstream operations and all do-nothing short-cuts) yields a well-formed
tree that evaluates to the operation applied to the target's rows, in the same order. -/
theorem finishApply_sound (σ : Leaves) (t : Rel) (op : UOp) (hwf : t.WF) (htr : t.Truthful σ)
    (hop : op.wfOn t.columns = true) (res : Res) (h : op.finishApply t = .ok res) :
    sem σ (res.get t) = op.sem (op.appliedColumns t.columns) (sem σ t) ∧ (res.get t).WF ∧
      (∀ c, c ∈ (res.get t).columns ↔ c ∈ op.appliedColumns t.columns) :=
  let r := DafRel.finishApply_sound σ t op hwf htr hop res h
  ⟨r.sem_eq, r.wf, r.cols⟩

/-- The only exception `_finish_apply` raises is the documented `EngineError` (an expression the target's
engine does not support), never a merge error.  That holds of any operation on any tree: the proof uses neither
`hwf` nor `hop`. -/
theorem finishApply_rejects_only_unsupported (σ : Leaves) (t : Rel) (op : UOp) (hwf : t.WF)
    (hop : op.wfOn t.columns = true) (e : Err) (h : op.finishApply t = .error e) : e = .engine :=
  finishApply_error_inv h

/-! ### Tie to the source: the regenerated `Slice.then` / `Slice.__post_init__` are the model's -/

/-- The Python `Slice.then` (translated from the current source by harness/extract.py) computes
exactly the model's `sliceThen`, for all bounds. -/
theorem bridge_Slice_then (s1 : Nat) (e1 : Option Nat) (s2 : Nat) (e2 : Option Nat) :
    Gen.Slice_then (.int s2) (Bridge.optN e2) (.int s1) (Bridge.optN e1)
      = Bridge.sliceObj (UOp.sliceThen s1 e1 s2 e2) :=
  Bridge.Slice_then_eq s1 e1 s2 e2

/-- The Python `Slice(start, stop)` constructor check is the model's `mkSlice`. -/
theorem bridge_Slice_new (s : Int) (e : Option Int) :
    Gen.Slice_new (.int s) (Bridge.optI e) = Bridge.sliceObj (UOp.mkSlice s e) :=
  Bridge.Slice_new_eq s e

/-- The `simplify` methods of Projection, Selection, Slice and Sort, as translated from the current
Python source on this run (translator T-e), are the model's `UOp.simplify`. -/
theorem bridge_simplify_methods (up : UOp) :
    (∀ c, Gen.Projection_simplify c up = (UOp.proj c).simplify up) ∧
    (∀ p, Gen.Selection_simplify p up = (UOp.sel p).simplify up) ∧
    (∀ s e, Gen.Slice_simplify s e up = (UOp.slice s e).simplify up) ∧
    (∀ ts, Gen.Sort_simplify ts up = (UOp.sort ts).simplify up) :=
  ⟨fun c => Bridge.Projection_simplify_eq c up, fun p => Bridge.Selection_simplify_eq p up,
   fun s e => Bridge.Slice_simplify_eq s e up, fun ts => Bridge.Sort_simplify_eq ts up⟩

example : UOp.sliceThen 0 (some 2) 3 (some 5) = .ok (.slice 3 (some 3)) := by rfl
example : sliceList 3 (some 5) (sliceList 0 (some 2) [1, 2, 3, 4, 5, 6]) = ([] : List Nat) := by decide
example : UOp.sliceThen 1 (some 5) 1 (some 3) = .ok (.slice 2 (some 4)) := by rfl
example : sliceList 2 (some 4) [0, 1, 2, 3, 4, 5] = sliceList 1 (some 3) (sliceList 1 (some 5) [0, 1, 2, 3, 4, 5]) := by
  decide

end DafRel.Props.C05
