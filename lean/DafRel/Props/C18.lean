/-
Property C18 — the iteration engine is lazy and single-pass where documented.

Model of laziness (`Model/IterExec.lean`): `exec` returns a syntax tree of row iterables without iterating the lazy
ones; `Iterable.events σ it d` lists the leaf-payload iterations *started* by `iter(it)` followed by `d` calls of
`next()` (`none` = `list(it)`), following CPython's semantics of generator expressions, generator functions and
`itertools.chain`; `ExecState.log` accumulates the events of the iterations `execute` itself performs.  The event
model is validated against counting payloads on the real library (correspondence); the theorems are about the model.

Quantifiers: all lazy-only trees (any nesting of calculation, projection, selection, slice, chain over leaves;
well-formed or not), all leaf contents, all starting states, all consumption depths.
-/
import DafRel.Lemmas.Payload

namespace DafRel.Props.C18

open DafRel

/-- `execute()` of a lazy-only tree iterates no leaf payload, attaches nothing, evaluates nothing. -/
theorem lazy_execute_touches_nothing (σ : Leaves) (r : Rel) (self : Engine) (s : ExecState)
    (it : Iterable) (s' : ExecState) (hl : r.LazyOnly) (h : exec σ self r s = .ok (it, s')) : s' = s :=
  (exec_lazy σ r self s it s' hl h).1

/-- Iterating the result of a lazy-only tree, fully (`d = none`) or `d` rows deep, starts the iteration of each
leaf *occurrence* of the tree at most once, in left-to-right order (that is what a sublist of the occurrences is). -/
theorem lazy_iteration_single_pass (σ : Leaves) (r : Rel) (self : Engine) (s : ExecState)
    (it : Iterable) (s' : ExecState) (hl : r.LazyOnly) (h : exec σ self r s = .ok (it, s'))
    (d : Option Nat) : (it.events σ d).Sublist r.leafOccs :=
  (events_sublist σ it d).trans (exec_lazy σ r self s it s' hl h).2

/-- Sort consumes its input exactly once, at `execute` time; the result is a stored row sequence: iterating it
(any number of times, to any depth) starts no leaf iteration. -/
theorem sort_consumes_once_at_execute (σ : Leaves) (ts : List SortTerm) (cols : Cols) (tr : Iterable)
    (s : ExecState) (it : Iterable) (s' : ExecState)
    (h : execOp σ (.sort ts) cols tr s = .ok (it, s')) :
    s'.log = (tr.events σ none).reverse ++ s.log ∧ it.isStored = true ∧ ∀ d, it.events σ d = [] := by
  obtain ⟨rows, rfl, rfl⟩ := execOp_sort_frame h
  exact ⟨rfl, rfl, fun _ => rfl⟩

/-- Deduplication consumes its input at most once, at `execute` time (not at all when the input already is a
mapping), and the result is a stored mapping. -/
theorem dedup_consumes_at_most_once_at_execute (σ : Leaves) (cols : Cols) (tr : Iterable)
    (s : ExecState) (it : Iterable) (s' : ExecState)
    (h : execOp σ .dedup cols tr s = .ok (it, s')) :
    (s'.log = s.log ∨ s'.log = (tr.events σ none).reverse ++ s.log) ∧ it.isStored = true ∧
      ∀ d, it.events σ d = [] := by
  obtain ⟨_, _, f3, f4⟩ := toMapping_frame h
  exact ⟨f4, f3, fun d => stored_no_events σ it f3 d⟩

/-- Materialization consumes its input at most once, at `execute` time; the payload it caches is a row sequence,
a row mapping or a leaf's own payload, never a lazy wrapper. -/
theorem materialize_consumes_at_most_once_at_execute (σ : Leaves) (inner : Iterable) (s : ExecState)
    (it : Iterable) (s' : ExecState) (h : materializedIt σ inner s = .ok (it, s')) :
    (s'.log = s.log ∨ s'.log = (inner.events σ none).reverse ++ s.log) ∧ it.isMaterialized = true := by
  obtain ⟨_, _, f3, f4⟩ := materializedIt_frame h
  exact ⟨f4, f3⟩

/-- Results can be iterated repeatedly with identical rows: in the model the rows are a function of the iterable and
the leaf contents only (`iterate` does not read its log), so this holds of every `Iterable` and does not tell a
re-iterable result from a single-pass one. -/
theorem iteration_repeatable (σ : Leaves) (it : Iterable) (log1 log2 : List Nat) :
    (iterate σ it log1).map (·.1) = (iterate σ it log2).map (·.1) := by
  unfold iterate
  cases it.rows σ <;> rfl

private def ta : Tag := ⟨"a", true⟩
private def e0 : Engine := ⟨0, .iter⟩
private def leaf1 : Rel := .leaf 1 e0 [ta] "L1" 2 (some 2) true 0
private def leaf2 : Rel := .leaf 2 e0 [ta] "L2" 2 (some 2) true 0
private def σ0 : Leaves := fun _ => [Row.empty.set ta 2, Row.empty.set ta 1]
/-- `chain(select(leaf1), leaf2)[1:]` -/
private def lazyTree : Rel :=
  .unary (.slice 1 none) (.binary .chain (.unary (.sel (.lit true)) leaf1 [ta]) leaf2 [ta]) [ta]

example : lazyTree.LazyOnly := by simp [lazyTree, Rel.LazyOnly, UOp.isLazy, leaf1, leaf2]
example : lazyTree.leafOccs = [1, 2] := by decide
/-- full iteration starts both leaves once; taking a single row starts only the first -/
example : ((exec σ0 e0 lazyTree {}).toOption.map (fun x => (x.1.events σ0 none, x.1.events σ0 (some 1), x.2.log)))
    = some ([1, 2], [1], []) := by decide +kernel

end DafRel.Props.C18
