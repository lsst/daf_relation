/-
Property C15 — transfer/materialize simplifications keep content; locked trees are inviolate.

Proved at model level, for all trees and all fuels: what `Transfer.simplify`, `transferred_to` and `materialized()`
return has the content of the original and lives in the requested engine (a materialization in its target's) - between
iteration engines directly, wherever a SQL engine is involved through `conform`, by the tree-building induction of
C17; `materialized()` of a locked relation (a leaf or a materialization) adds no materialization, in either engine family; back-tracking never
goes below a locked node, and `_finish_apply` hands every locked node on unchanged.
Partial: a transfer whose `Transfer.simplify` strips a there-and-back pair ending in a SQL relation that
is not a raw tree (the stripped subtree lies below a transfer node, where the theorems assume nothing).
-/
import DafRel.Lemmas.SqlFactories
import DafRel.Bridge.Tables
import DafRel.Bridge.Dispatch
import DafRel.Bridge.RelOps

namespace DafRel.Props.C15

open DafRel

/-- Reached from `t` through transfer nodes and Select markers only. -/
inductive ThroughUnlocked : Rel → Rel → Prop where
  | refl (t : Rel) : ThroughUnlocked t t
  | transfer (oid : Nat) (d : Engine) (t u : Rel) : ThroughUnlocked t u → ThroughUnlocked (.transfer oid d t) u
  | select (oid : Nat) (so : List SortTerm) (pr : Option Cols) (dd : Bool) (a : Nat) (b : Option Nat)
      (sk : Rel) (ic : Bool) (t u : Rel) : ThroughUnlocked t u → ThroughUnlocked (.select oid so pr dd a b sk ic t) u

theorem ThroughUnlocked.sem_eq (σ : Leaves) {t u : Rel} (h : ThroughUnlocked t u) : sem σ u = sem σ t := by
  induction h with
  | refl => rfl
  | transfer _ _ _ _ _ ih => simpa [sem] using ih
  | select _ _ _ _ _ _ _ _ _ _ _ ih => simpa [sem] using ih

theorem transferSimplify_through (dest : Engine) (t u : Rel) (h : transferSimplify dest t = some u) :
    ThroughUnlocked t u := by
  fun_induction transferSimplify dest t with
  | case1 => cases h; exact .transfer _ _ _ _ (.refl _)
  | case2 _ _ _ _ ih => exact .transfer _ _ _ _ (ih h)
  | case3 _ _ _ _ _ _ _ _ _ ih => exact .select _ _ _ _ _ _ _ _ _ _ (ih h)
  | case4 => cases h

/-- Whatever `Transfer.simplify` hands back has the content of the original, lives in the requested engine, and is
reached from the original through transfers and unlocked (Select) markers only. -/
theorem transferSimplify_sound (σ : Leaves) (dest : Engine) : (t u : Rel) → transferSimplify dest t = some u →
    sem σ u = sem σ t ∧ u.engine = dest ∧ ThroughUnlocked t u :=
  fun t u h =>
    have T := transferSimplify_through dest t u h
    ⟨T.sem_eq σ, transferSimplify_engine dest t u h, T⟩

/-- `transferred_to` between iteration engines, including "to another engine and straight back", keeps the content and
lands in the requested engine. -/
theorem transfer_between_iteration_engines (σ : Leaves) (st : Store) (fuel : Nat) (dest : Engine)
    (t : Rel) (res : Res) (hd : dest.kind = .iter)
    (hsrc : ∀ u, ThroughUnlocked t u → u.engine.kind = .iter)
    (h : transferTo st (fuel+2) dest t = .ok res) :
    sem σ (res.get t) = sem σ t ∧ (res.get t).engine = dest :=
  have T := (transferTo_iter_holds σ st (fuel+2) dest t hd (hsrc t (.refl t))).of_ok h
  ⟨T.1, T.2.1⟩

/-- `relation.transferred_to(relation.engine)`: `result is relation`. -/
theorem transfer_to_own_engine_is_same (st : Store) (fuel : Nat) (t : Rel)
    (hk : t.engine.kind = .iter) (hs : transferSimplify t.engine t = none) :
    transferTo st (fuel+1) t.engine t = .ok .same := by
  rw [transferTo_eq_of_none st fuel _ t hs, hk]
  simp only [beq_self_eq_true, if_true]
  rfl

/-- `materialized()` of a locked relation returns it as it is (`hm`: a leaf or a materialization, also behind
same-engine transfers and Select markers). -/
theorem materialize_locked_adds_nothing_iter (st : Store) (fuel : Nat) (t : Rel) (name : String)
    (hk : t.engine.kind = .iter) (hm : matSimplify t = true) :
    materialize st (fuel+1) t name = .ok .same := by
  rw [materialize_iter st fuel t name hk, hm]; rfl

/-- The same in the SQL engine: the conformed relation is returned, no `Materialization` node is created. -/
theorem materialize_locked_adds_nothing_sql (st : Store) (fuel : Nat) (t : Rel) (name : String)
    (res : Res) (hk : t.engine.kind = .sql) (h : materialize st (fuel+1) t name = .ok res)
    (ct : Res) (hc : conform st fuel t = .ok ct) (hm : matSimplify (ct.get t) = true) : res = ct := by
  rw [materialize] at h
  simp only [hk, hc, Except.ok_bind] at h
  obtain ⟨-, h⟩ := Except.ite_error_eq_ok.mp h
  rw [if_pos hm] at h
  exact (Except.pure_eq_ok.mp h).symm

/-- `relation.transferred_to(dest)` when the source or the destination is a SQL engine and `Transfer.simplify`
finds nothing to strip: rows and columns are kept, the result is well-formed and (stated for `t.engine ≠ dest`) lands
in the requested engine. -/
theorem transfer_through_sql_keeps_content (σ : Leaves) (st : Store) (fuel : Nat) (dest : Engine) (t : Rel)
    (res : Res) (hwf : t.WF) (htr : t.Truthful σ) (hraw : t.engine.kind = .sql → t.RawSql)
    (hs : transferSimplify dest t = none) (h : transferTo st fuel dest t = .ok res) :
    sem σ (res.get t) = sem σ t ∧ (∀ c, c ∈ (res.get t).columns ↔ c ∈ t.columns) ∧
      (res.get t).WF ∧ (t.engine ≠ dest → (res.get t).engine = dest) :=
  let ⟨s, c, w, _, e, _⟩ :=
    transferTo_sound_of_none σ st fuel dest t res hwf htr (fun hk => raw_good σ t hwf htr (hraw hk)) hs h
  ⟨s, c, w, fun _ => e⟩

/-- `materialized()` inside a SQL engine keeps rows and columns, returns a well-formed relation and stays in that
engine. -/
theorem materialize_sql_keeps_content (σ : Leaves) (st : Store) (fuel : Nat) (t : Rel) (name : String)
    (res : Res) (hwf : t.WF) (htr : t.Truthful σ) (hraw : t.RawSql) (h : materialize st fuel t name = .ok res) :
    sem σ (res.get t) = sem σ t ∧ (∀ c, c ∈ (res.get t).columns ↔ c ∈ t.columns) ∧
      (res.get t).WF ∧ (res.get t).engine = t.engine :=
  let ⟨g, s1, s2, s3⟩ := materialize_good σ st fuel t name res (raw_good σ t hwf htr hraw) (fun _ _ _ => trivial) h
  ⟨s1, s2, g.wf, s3⟩

/-- **A database engine never back-tracks**, so nothing is inserted upstream of anything - locked or not - inside a
database.  The model fact (first conjunct) stands for the code through the other two: on this run `sql.Engine`
inherits `backtrack_unary` from the base class, whose body is `return tree, False, ...` (re-read from the live classes). -/
theorem sql_engine_never_backtracks (st : Store) (fuel : Nat) (op : AnyOp) (tree : Rel) (pref : Engine)
    (hk : tree.engine.kind = .sql) :
    backtrack st (fuel+1) op tree pref = .ok (.same, false) ∧
    ("sql.Engine", "backtrack_unary", "_engine.Engine") ∈ Gen.dispatch ∧
    ("_engine.Engine", "backtrack_unary:body", "return tree, False") ∈ Gen.dispatch :=
  ⟨backtrack_sql st fuel op tree pref hk,
    List.mem_of_getElem? (i := 6) (by rw [Bridge.dispatch_eq]; rfl),
    List.mem_of_getElem? (i := 12) (by rw [Bridge.dispatch_eq]; rfl)⟩

/-- Tie to the source: which class defines each engine method the model dispatches on. -/
theorem bridge_engine_dispatch : Gen.dispatch.length = 13 ∧
    (Gen.dispatch.filter (fun r => r.1 == "sql.Engine" && r.2.2 == "_engine.Engine")).map (·.2.1) = ["backtrack_unary"] ∧
    (Gen.dispatch.filter (fun r => r.1 == "iteration.Engine" && r.2.2 != "_engine.Engine")).map (·.2.1) =
      ["backtrack_unary"] := by
  rw [Bridge.dispatch_eq]; decide +kernel

theorem backtrack_stops_at_locked (st : Store) (fuel : Nat) (op : AnyOp) (tree : Rel) (pref : Engine)
    (h : tree.isLocked = true) : backtrack st (fuel+1) op tree pref = .ok (.same, false) :=
  backtrack_locked st fuel op tree pref h

/-- `is_locked` as re-read from the source: exactly leaves and materializations. -/
theorem bridge_locked : Gen.locked =
    [("LeafRelation", true), ("UnaryOperationRelation", false), ("BinaryOperationRelation", false),
     ("Materialization", true), ("Transfer", false), ("Select", false)] := Bridge.locked_eq

/-- `Transfer.simplify` and `Materialization.simplify`, as translated from the current Python source on this run
(translator T-f), are the model's. -/
theorem bridge_simplify_methods (dest : Engine) (t : Rel) :
    Gen.Transfer_simplify dest t = transferSimplify dest t ∧ Gen.Materialization_simplify t = matSimplify t :=
  ⟨Bridge.Transfer_simplify_eq dest t, Bridge.Materialization_simplify_eq t⟩

/-- Whole subtrees rooted at a leaf or a materialization. -/
def lockedNodes : Rel → List Rel
  | .leaf a b c d e f g h => [.leaf a b c d e f g h]
  | .unary _ t _ => lockedNodes t
  | .binary _ l r _ => lockedNodes l ++ lockedNodes r
  | .mat oid n t => .mat oid n t :: lockedNodes t
  | .transfer _ _ t => lockedNodes t
  | .select _ _ _ _ _ _ _ _ t => lockedNodes t

/-- Every locked node of the tree `_finish_apply` returns - after any amount of merging and elision - is a locked
node of the input, unchanged down to its leaves. -/
theorem finishApply_keeps_locked_nodes (t : Rel) (op : UOp) (res : Res) (h : op.finishApply t = .ok res) :
    ∀ n, n ∈ lockedNodes (res.get t) → n ∈ lockedNodes t :=
  finishApply_keeps (fun r => ∀ n, n ∈ lockedNodes r → n ∈ lockedNodes t) (fun _ _ _ hp => hp) (fun _ _ _ hp => hp)
    t op res (fun _ hn => hn) h

private def ta : Tag := ⟨"a", true⟩
private def e0 : Engine := ⟨0, .iter⟩
private def e1 : Engine := ⟨1, .iter⟩
private def leaf0 : Rel := .leaf 1 e0 [ta] "L" 0 none true 0
/-- to `e1` and straight back to `e0`: the original leaf -/
example : (transferTo [] defaultFuel e0 (.transfer 0 e1 leaf0)).toOption.map (fun r => (r.get (.transfer 0 e1 leaf0)).oid)
    = some 1 := by decide
example : materialize [] defaultFuel leaf0 "m" = .ok .same := by rfl

end DafRel.Props.C15
