/-
Property C12 — column expressions mean the same thing in every engine.

Three evaluators of the model:
  * `Expr.val` / `Pred.val`: direct evaluation (the specification; total),
  * `Expr.eval` / `Pred.eval`: the callable the iteration engine builds (`convert_column_expression` /
    `convert_predicate` of `iteration/_engine.py`; `none` = it raises),
  * `convExpr` / `convPred` followed by `SqlExpr.eval` / `SqlPred.eval`: the SQL engine's translation evaluated by
    the database (SQLite's integer arithmetic and truncating `%`).

Quantifiers: all expression / predicate trees over the portable operator set (column references, integer literals,
negation, +, -, *, the six comparisons, AND/OR/NOT of any arity, membership in a literal range with ANY
start/stop/step and in a sequence of expressions), all NULL-free integer rows that have the required columns.

The SQL evaluator is a model of the database (validated by running every generated expression on SQLite in the
correspondence check); what is proved here is that the *translation* preserves meaning under that model, in
particular the range arithmetic with its negative-step, negative-start and single-element special cases.
-/
import DafRel.Lemmas.SqlConv
import DafRel.Lemmas.SqlEnv

namespace DafRel.Props.C12

open DafRel

/-- The iteration engine's callable computes the direct value (and never raises) on every row that
has the required columns. -/
theorem iteration_expression_agrees (r : Row) (e : Expr) (ha : e.arityOk = true)
    (hr : r.hasAll e.columnsRequired) : e.eval r = some (e.val r) := Expr.eval_eq_val r e ha hr

theorem iteration_predicate_agrees (r : Row) (p : Pred) (ha : p.arityOk = true)
    (hr : r.hasAll p.columnsRequired) : p.eval r = some (p.val r) := Pred.eval_eq_val r p ha hr

theorem sql_expression_agrees (avail : List (Tag × SqlExpr)) (env : PEnv) (r : Row)
    (hav : AvailOK avail env r) (e : Expr) (x : SqlExpr) (hc : convExpr avail e = .ok x)
    (ha : e.arityOk = true) (hr : r.hasAll e.columnsRequired) : x.eval env = some (e.val r) :=
  convExpr_eval_val hav hc ha hr

theorem sql_predicate_agrees (avail : List (Tag × SqlExpr)) (env : PEnv) (r : Row)
    (hav : AvailOK avail env r) (p : Pred) (q : SqlPred) (hc : convPred avail p = .ok q)
    (ha : p.arityOk = true) (hr : r.hasAll p.columnsRequired) : q.eval env = p.val r :=
  convPred_eval avail env r hav p q (p.val r) hc (Pred.eval_eq_val r p ha hr)

theorem three_way_agreement (avail : List (Tag × SqlExpr)) (env : PEnv) (r : Row)
    (hav : AvailOK avail env r) (p : Pred) (q : SqlPred) (hc : convPred avail p = .ok q)
    (ha : p.arityOk = true) (hr : r.hasAll p.columnsRequired) :
    p.eval r = some (p.val r) ∧ q.eval env = p.val r :=
  ⟨Pred.eval_eq_val r p ha hr, sql_predicate_agrees avail env r hav p q hc ha hr⟩

/-- `item in range(a, b, s)` in SQL (`=`, `BETWEEN`, `%` with SQLite's truncating remainder and
the start's Python-style residue) is Python's `range` membership, for ALL `a`, `b`, `s`. -/
theorem sql_range_membership (env : PEnv) (x : SqlExpr) (v a b s : Int) (hx : x.eval env = some v) :
    (convRange x a b s).eval env = inRange v a b s := convRange_sound env x v a b s hx

theorem sql_expression_translates (avail : List (Tag × SqlExpr)) (e : Expr)
    (h : ∀ t, t ∈ e.columnsRequired → (SqlPayload.lookup avail t).isSome = true) :
    ∃ x, convExpr avail e = .ok x := convExpr_total avail e h

private def ta : Tag := ⟨"a", true⟩
private def row0 : Row := Row.empty.set ta (-7)
private def avail0 : List (Tag × SqlExpr) := [(ta, .col "t" ta)]
private def env0 : PEnv := rowEnv "t" row0
/-- `a in range(5, -20, -4)`: members 5, 1, -3, -7, -11, -15, -19 -/
private def p0 : Pred := .inC (.ref ta) (.range 5 (-20) (-4))

example : AvailOK avail0 env0 row0 := availOK_of_lookup (SqlPayload.lookup_map_mk (SqlExpr.col "t") [ta]) row0
example : p0.val row0 = true := by decide
example : (convPred avail0 p0).toOption.map (fun q => q.eval env0) = some true := by decide +kernel

end DafRel.Props.C12
