/-
Property C16 — Diagnostics never dooms a non-empty relation; exact with a truthful executor.

For ALL relation trees (any depth, all operations incl. join/chain, doomed/identity leaves,
trivially false predicates, zero-limit slices) over truthful leaves, with and without executor.
-/
import DafRel.Model.Diagnostics
import DafRel.Lemmas.Metadata
import DafRel.Lemmas.Trivial
import DafRel.Bridge.Tables

namespace DafRel.Props.C16

open DafRel Diagnostics

/-- An executor that never answers "no rows" for a relation that has rows. -/
def SoundExecutor (σ : Leaves) (ex : Option (Rel → Bool)) : Prop :=
  ∀ f, ex = some f → ∀ r, f r = false → sem σ r = []

/-- An executor that answers exactly whether the relation has rows. -/
def TruthfulExecutor (σ : Leaves) (f : Rel → Bool) : Prop :=
  ∀ r, f r = !(sem σ r).isEmpty

/-- The static check `relation.max_rows == 0 and operation.applied_max_rows(target) != 0` can
never fire: both sides are the same number. -/
theorem static_check_dead (a : Option Nat) : (a == some 0 && a != some 0) = false :=
  Bool.and_not_self _

/-- The two operation-specific static verdicts of `Diagnostics.run`. -/
def special (op : UOp) : Bool :=
  match op with
  | .slice s e => UOp.sliceLimit s e == some 0
  | .sel p => p.asTrivial == some false
  | _ => false

/-- The executor, if there is one, answers "no rows" for `r`. -/
def refuses (ex : Option (Rel → Bool)) (r : Rel) : Bool :=
  match ex with
  | some f => !f r
  | none => false

/-! `Diagnostics.run`, one equation per kind of node (`run ex` of a materialization, transfer or select node is
`run ex` of its target by `rfl`). -/

section
variable (ex : Option (Rel → Bool)) (l r : Rel) (c : Cols)

theorem run_leaf (oid : Nat) (e : Engine) (n : String) (mn : Nat) (mx : Option Nat) (p : Bool) (msgs : Nat) :
    run ex (.leaf oid e c n mn mx p msgs) =
      if mx == some 0 || refuses ex (.leaf oid e c n mn mx p msgs) then ⟨true, if msgs == 0 then 1 else msgs⟩
      else ⟨false, msgs⟩ := by
  rw [ite_or]
  cases ex <;> rfl

/-- Shape of `run` on an operation node (the never-firing static check removed). -/
theorem run_unary (op : UOp) (t : Rel) :
    run ex (.unary op t c) =
      if (run ex t).isDoomed then run ex t
      else if special op || !op.isEmptyInvariant && refuses ex (.unary op t c) then
        ⟨true, (run ex t).messages + 1⟩
      else run ex t := by
  show (if _ then _ else if op.appliedMaxRows t.columns t.maxRows == some 0 && _ then _ else _) = _
  rw [static_check_dead, ite_or]
  cases ex <;> cases op.isEmptyInvariant <;> rfl

theorem run_chain :
    run ex (.binary .chain l r c) =
      ⟨(run ex l).isDoomed && (run ex r).isDoomed, (run ex l).messages + (run ex r).messages⟩ := rfl

theorem run_join (j : JoinOp) :
    run ex (.binary (.join j) l r c) =
      if (run ex l).isDoomed || (run ex r).isDoomed then ⟨true, (run ex l).messages + (run ex r).messages⟩
      else if j.pred.asTrivial == some false || refuses ex (.binary (.join j) l r c) then
        ⟨true, (run ex l).messages + (run ex r).messages + 1⟩
      else ⟨false, (run ex l).messages + (run ex r).messages⟩ := by
  rw [ite_or (j.pred.asTrivial == some false)]
  cases ex <;> rfl

theorem run_ignoreOne (il : Bool) :
    run ex (.binary (.ignoreOne il) l r c) =
      if refuses ex (.binary (.ignoreOne il) l r c) then ⟨true, (run ex l).messages + (run ex r).messages + 1⟩
      else ⟨false, (run ex l).messages + (run ex r).messages⟩ := by
  cases ex <;> rfl

theorem isDoomed_ite (b : Bool) (m n : Nat) : (if b then (⟨true, m⟩ : Diag) else ⟨false, n⟩).isDoomed = b := by
  cases b <;> rfl

theorem isDoomed_unary (op : UOp) (t : Rel) :
    (run ex (.unary op t c)).isDoomed =
      ((run ex t).isDoomed || (special op || !op.isEmptyInvariant && refuses ex (.unary op t c))) := by
  rw [run_unary]
  cases h : (run ex t).isDoomed
  · cases special op || !op.isEmptyInvariant && refuses ex (.unary op t c)
    · exact h
    · rfl
  · exact h

theorem isDoomed_join (j : JoinOp) :
    (run ex (.binary (.join j) l r c)).isDoomed =
      ((run ex l).isDoomed || (run ex r).isDoomed ||
        (j.pred.asTrivial == some false || refuses ex (.binary (.join j) l r c))) := by
  rw [run_join]
  cases (run ex l).isDoomed || (run ex r).isDoomed
  · exact isDoomed_ite ..
  · rfl

end

theorem special_sound (op : UOp) (c : Cols) (l : List Row) (h : special op = true) : op.sem c l = [] := by
  cases op with
  | slice s e =>
    cases e with
    | none => cases h
    | some e =>
      have he : (e : Int) - s = 0 := by simpa [special, UOp.sliceLimit] using h
      show (l.take e).drop s = []
      exact List.drop_eq_nil_of_le (Nat.le_trans (List.length_take_le _ _) (by omega))
  | sel p =>
    refine List.filter_eq_nil_iff.mpr fun r _ => ?_
    rw [Pred.asTrivial_val r p false (beq_iff_eq.mp h)]
    exact Bool.false_ne_true
  | _ => cases h

theorem refuses_sound {σ : Leaves} {ex : Option (Rel → Bool)} (hex : SoundExecutor σ ex) {r : Rel}
    (h : refuses ex r = true) : sem σ r = [] := by
  cases ex with
  | none => cases h
  | some f => exact hex f rfl r (by simpa [refuses] using h)

/-- A verdict that, if doomed, says why. -/
def Explained (d : Diag) : Prop := d.isDoomed = true → d.messages ≥ 1

theorem Explained.doomed (m : Nat) : Explained ⟨true, m + 1⟩ := fun _ => Nat.le_add_left 1 m

theorem Explained.not_doomed (m : Nat) : Explained ⟨false, m⟩ := fun h => nomatch h

theorem Explained.ite {b : Bool} {x y : Diag} (hx : b = true → Explained x) (hy : Explained y) :
    Explained (if b then x else y) := by
  cases b
  · exact hy
  · exact hx rfl

/-- `is_empty_invariant` operations map non-empty inputs to non-empty outputs (what lets
`Diagnostics` skip the executor for them). -/
theorem emptyInvariant_sound (op : UOp) (c : Cols) (l : List Row) (hinv : op.isEmptyInvariant = true)
    (hne : l ≠ []) : op.sem c l ≠ [] := by
  cases hci : op.isCountInvariant with
  | true =>
    exact fun h => hne (List.eq_nil_of_length_eq_zero (by rw [← op.length_sem_of_countInvariant l c hci, h]; rfl))
  | false =>
    cases op with
    | dedup => exact firstOcc_ne_nil c l hne
    | sel _ | slice _ _ => cases hinv
    | _ => cases hci

/-- An executor that answers "no rows" for every relation that has none. -/
def CompleteExecutor (σ : Leaves) (ex : Option (Rel → Bool)) : Prop :=
  ∀ r, sem σ r = [] → refuses ex r = true

/-- **What `Diagnostics.run` guarantees**, by one induction over its equations: a doomed verdict has a
message; an empty relation is doomed if the executor recognises empty relations (no hypothesis on the
tree); a doomed relation is empty if the executor is sound and the leaves are truthful (the tree need not be
well-formed). -/
theorem run_spec (ex : Option (Rel → Bool)) (t : Rel) :
    Explained (run ex t) ∧
    ∀ σ, (CompleteExecutor σ ex → sem σ t = [] → (run ex t).isDoomed = true) ∧
      (SoundExecutor σ ex → t.Truthful σ → (run ex t).isDoomed = true → sem σ t = []) := by
  induction t with
  | leaf oid e c n mn mx p msgs =>
    refine ⟨?_, fun σ => ⟨fun hex he => ?_, fun hex htr hd => ?_⟩⟩
    · rw [run_leaf]
      exact Explained.ite (fun _ _ => by cases msgs <;> exact Nat.succ_pos _) (.not_doomed _)
    · rw [run_leaf, isDoomed_ite, hex _ he, Bool.or_true]
    · rw [run_leaf, isDoomed_ite, Bool.or_eq_true, beq_iff_eq] at hd
      rcases hd with hmx | hr
      · exact maxRows_zero_sound σ _ trivial htr hmx
      · exact refuses_sound hex hr
  | mat _ _ t ih | transfer _ _ t ih | select _ _ _ _ _ _ _ _ t _ ih => exact ih
  | unary op t c ih =>
    obtain ⟨ihm, ih⟩ := ih
    refine ⟨?_, fun σ => ⟨fun hex he => ?_, fun hex htr hd => ?_⟩⟩
    · rw [run_unary]
      exact Explained.ite (fun _ => ihm) (.ite (fun _ => .doomed _) ihm)
    · rw [isDoomed_unary, hex _ he, Bool.and_true]
      cases hinv : op.isEmptyInvariant
      · rw [Bool.not_false, Bool.or_true, Bool.or_true]
      · have ht : sem σ t = [] :=
          Classical.byContradiction fun hne => emptyInvariant_sound op c _ hinv hne he
        rw [(ih σ).1 hex ht]; rfl
    · rw [isDoomed_unary] at hd
      simp only [Bool.or_eq_true, Bool.and_eq_true] at hd
      show op.sem c (sem σ t) = []
      rcases hd with hd | hsp | ⟨_, hr⟩
      · rw [(ih σ).2 hex htr hd, UOp.sem_nil]
      · exact special_sound op c _ hsp
      · exact refuses_sound hex hr
  | binary op l r c ihl ihr =>
    obtain ⟨ihlm, ihl⟩ := ihl
    obtain ⟨ihrm, ihr⟩ := ihr
    cases op with
    | chain =>
      refine ⟨fun hd => ?_, fun σ => ⟨fun hex he => ?_, fun hex htr hd => ?_⟩⟩
      · rw [run_chain, Bool.and_eq_true] at hd
        exact Nat.le_trans (ihlm hd.1) (Nat.le_add_right _ _)
      · have h := List.append_eq_nil_iff.mp he
        rw [run_chain, (ihl σ).1 hex h.1, (ihr σ).1 hex h.2]; rfl
      · rw [run_chain, Bool.and_eq_true] at hd
        show sem σ l ++ sem σ r = []
        rw [(ihl σ).2 hex htr.1 hd.1, (ihr σ).2 hex htr.2 hd.2]; rfl
    | join j =>
      refine ⟨?_, fun σ => ⟨fun hex he => ?_, fun hex htr hd => ?_⟩⟩
      · rw [run_join]
        refine Explained.ite (fun hor _ => ?_) (.ite (fun _ => .doomed _) (.not_doomed _))
        rw [Bool.or_eq_true] at hor
        rcases hor with h | h
        · exact Nat.le_trans (ihlm h) (Nat.le_add_right _ _)
        · exact Nat.le_trans (ihrm h) (Nat.le_add_left _ _)
      · rw [isDoomed_join, hex _ he, Bool.or_true, Bool.or_true]
      · rw [isDoomed_join] at hd
        simp only [Bool.or_eq_true, beq_iff_eq] at hd
        show joinRows j.minCols j.pred (sem σ l) (sem σ r) = []
        rcases hd with (hl | hr) | htriv | hr
        · rw [(ihl σ).2 hex htr.1 hl, joinRows_nil_left]
        · rw [(ihr σ).2 hex htr.2 hr, joinRows_nil_right]
        · exact joinRows_false _ _ _ _ (fun row => Pred.asTrivial_val row j.pred false htriv)
        · exact refuses_sound hex hr
    | ignoreOne il =>
      refine ⟨?_, fun σ => ⟨fun hex he => ?_, fun hex _ hd => ?_⟩⟩
      · rw [run_ignoreOne]
        exact Explained.ite (fun _ => .doomed _) (.not_doomed _)
      · rw [run_ignoreOne, isDoomed_ite, hex _ he]
      · exact refuses_sound hex (by rwa [run_ignoreOne, isDoomed_ite] at hd)

/-- **Soundness.** A relation reported as doomed has no rows — without an executor, or with any
executor that is itself sound. -/
theorem diag_sound (σ : Leaves) (ex : Option (Rel → Bool)) (hex : SoundExecutor σ ex) :
    (t : Rel) → t.WF → t.Truthful σ → (run ex t).isDoomed = true → sem σ t = [] :=
  fun t _ => ((run_spec ex t).2 σ).2 hex

/-- Special case of the property's first sentence: no executor at all. -/
theorem diag_sound_no_executor (σ : Leaves) (t : Rel) (hwf : t.WF) (htr : t.Truthful σ)
    (hd : (run none t).isDoomed = true) : sem σ t = [] :=
  diag_sound σ none (by intro f hf; cases hf) t hwf htr hd

theorem doomed_has_message (ex : Option (Rel → Bool)) :
    (t : Rel) → (run ex t).isDoomed = true → (run ex t).messages ≥ 1 :=
  fun t => (run_spec ex t).1

/-- **Completeness.** With an executor that recognises every empty relation, every empty relation is
reported doomed (no hypothesis on the tree or the leaves is needed). -/
theorem diag_complete (σ : Leaves) (ex : Option (Rel → Bool)) (hex : CompleteExecutor σ ex) (t : Rel) :
    sem σ t = [] → (run ex t).isDoomed = true :=
  ((run_spec ex t).2 σ).1 hex

theorem TruthfulExecutor.refuses_iff {σ : Leaves} {f : Rel → Bool} (hf : TruthfulExecutor σ f) (r : Rel) :
    refuses (some f) r = true ↔ sem σ r = [] := by
  show (!f r) = true ↔ _
  rw [hf r]
  simp

theorem TruthfulExecutor.sound {σ : Leaves} {f : Rel → Bool} (hf : TruthfulExecutor σ f) :
    SoundExecutor σ (some f) :=
  fun g hg r hr => by cases hg; exact (hf.refuses_iff r).mp (by rw [refuses, hr]; rfl)

theorem TruthfulExecutor.complete {σ : Leaves} {f : Rel → Bool} (hf : TruthfulExecutor σ f) :
    CompleteExecutor σ (some f) :=
  fun r => (hf.refuses_iff r).mpr

/-- **Exactness.** With a truthful executor a relation is reported doomed exactly when it has no
rows (join trees included). -/
theorem diag_exact (σ : Leaves) (f : Rel → Bool) (hf : TruthfulExecutor σ f) :
    (t : Rel) → t.WF → t.Truthful σ → ((run (some f) t).isDoomed = true ↔ sem σ t = []) :=
  fun t hwf htr => ⟨diag_sound σ (some f) hf.sound t hwf htr, diag_complete σ (some f) hf.complete t⟩
where
  not_doomed_nonempty (σ : Leaves) (f : Rel → Bool) (hf : TruthfulExecutor σ f) :
      (t : Rel) → t.WF → t.Truthful σ → (run (some f) t).isDoomed = false → sem σ t ≠ [] :=
    fun t _ _ hd => mt (diag_complete σ (some f) hf.complete t) (by rw [hd]; exact Bool.false_ne_true)

/-- Tie to the source: `is_empty_invariant` of every operation class as read from the code. -/
theorem bridge_flags : Gen.flags = Bridge.modelFlags :=
  Bridge.flags_eq

private def ta : Tag := ⟨"a", true⟩
private def leaf0 : Rel := .leaf 1 ⟨0, .iter⟩ [ta] "L" 0 (some 2) true 0
private def σ0 : Leaves := fun _ => [Row.empty.set ta 1, Row.empty.set ta 2]
private def tree0 : Rel := .unary (.sel (.and [.lit true, .lit false])) leaf0 [ta]

example : (run none tree0).isDoomed = true ∧ (run none tree0).messages = 1 := by decide
example : (run none leaf0).isDoomed = false := by decide

end DafRel.Props.C16
