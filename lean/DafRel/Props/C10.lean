/-
Property C10 — payloads are write-once and materializations are computed at most once.

Quantifiers: every history (of any length) of `attach_payload` and iteration-engine `execute` calls, on any trees
(well-formed or not) that share any materialization nodes, from any starting store.  The only structural assumption is
that the object graph is acyclic (`Rel.Acyclic`: a materialization does not occur in its own upstream tree), which
holds of immutable objects built bottom-up.  A call that fails leaves the store as it was (`step`); the library keeps
the payloads an `execute` attached before it raised, so the histories proved about are the library's as long as no
`execute` fails (it does not under the hypotheses of C01).

Model.  The payload store is keyed by allocation id (= Python object identity of the marker).  `attachTarget` is
`attach_payload`; `exec` is `iteration.Engine.execute`; `ExecState.evals` is a ghost log that records each evaluation
of a materialization's upstream tree (never read by the engine).  For `Processor.process`, `processing_is_write_once`
covers one call on the multi-engine trees of C07 and `repeated_processing_is_write_once` any number of calls on the same
tree; `process` on other trees, and histories mixing `process` with `execute`, are validated by correspondence and by
the C10 oracle.
-/
import DafRel.Lemmas.Payload
import DafRel.Lemmas.ProcMulti

namespace DafRel.Props.C10

open DafRel

/-- `attach_payload` succeeds exactly on a marker relation whose payload is `None`; everything
else (operation relations, leaves, markers that already hold a payload) is a `TypeError`. -/
theorem attach_only_on_empty_markers (hasPay : Nat → Bool) (r : Rel) :
    (match r with
     | .mat oid .. | .transfer oid .. | .select oid .. =>
       attachTarget hasPay r = (if hasPay oid then .error .type else .ok oid)
     | .leaf .. | .unary .. | .binary .. => attachTarget hasPay r = .error .type) := by
  cases r <;> rfl

/-- One call of `execute`: nothing already in the store is replaced or cleared; payloads appear
only on materialization nodes of the executed tree; the upstream tree of a materialization that
was evaluated before is not evaluated again. -/
theorem execute_respects_store (σ : Leaves) (r : Rel) (self : Engine) (s : ExecState) (it : Iterable)
    (s' : ExecState) (hac : r.Acyclic) (h : exec σ self r s = .ok (it, s')) : ExecFrame r s s' :=
  exec_frame σ r self s it s' hac h

/-- A materialization that holds a payload is not re-evaluated: `execute` hands back the cached
payload object and changes nothing (no leaf iteration, no evaluation, no store update). -/
theorem cached_materialization_is_reused (σ : Leaves) (oid : Nat) (name : String) (t : Rel)
    (self : Engine) (s : ExecState) (p : Iterable) (hp : s.payload oid = some p)
    (he : t.engine = self) (h0 : t.maxRows ≠ some 0) (hj : (Rel.mat oid name t).isJoinIdentity = false) :
    exec σ self (.mat oid name t) s = .ok (p, s) := by
  have h1 : ((Rel.mat oid name t).engine != self) = false := by simp [Rel.engine, he]
  have h2 : ((Rel.mat oid name t).maxRows == some 0) = false := by simpa [Rel.maxRows] using h0
  rw [exec_eq]
  simp [h1, h2, hj, Rel.payloadIt, Rel.oid, hp]

/-- ... and in the two metadata short-cut cases nothing is evaluated or stored either. -/
theorem shortcut_touches_nothing (σ : Leaves) (r : Rel) (self : Engine) (s : ExecState) (it : Iterable)
    (s' : ExecState) (h : exec σ self r s = .ok (it, s'))
    (hsc : r.maxRows = some 0 ∨ r.isJoinIdentity = true) : s' = s := by
  rw [exec_eq] at h
  obtain ⟨-, h⟩ := Except.ite_error_eq_ok.mp h
  by_cases h0 : (r.maxRows == some 0) = true
  · rw [if_pos h0] at h; cases h; rfl
  · rw [if_neg h0, if_pos (hsc.resolve_left fun hm => h0 (by simp [hm]))] at h; cases h; rfl

/-- One externally issued call. -/
inductive Step where
  | execute (e : Engine) (r : Rel)
  | attach (r : Rel) (payload : Iterable)

def stepAcyclic : Step → Prop
  | .execute _ r => r.Acyclic
  | .attach _ _ => True

/-- A failing call leaves the store as it was: the model's `Except` carries no state. -/
def step (σ : Leaves) (s : ExecState) : Step → ExecState
  | .execute e r =>
    match exec σ e r s with
    | .ok (_, s') => s'
    | .error _ => s
  | .attach r payload =>
    match attachTarget (fun o => (s.payload o).isSome) r with
    | .ok oid => { s with payloads := (oid, payload) :: s.payloads }
    | .error _ => s

theorem step_mono (σ : Leaves) (s : ExecState) (st : Step) (hac : stepAcyclic st) :
    (∀ o p, s.payload o = some p → (step σ s st).payload o = some p) ∧
      (EvalsOK s → EvalsOK (step σ s st)) := by
  cases st with
  | execute e r =>
    simp only [step]
    split
    · next it s' h =>
      have f := exec_frame σ r e s it s' hac h
      exact ⟨f.mono, f.evalsOK⟩
    · exact ⟨fun _ _ h => h, id⟩
  | attach r payload =>
    simp only [step]
    split
    · next oid h =>
      have hfree : s.payload oid = none := by simpa using attachTarget_inv h
      exact ⟨PayKeep.cons s oid payload _ hfree, fun hok => hok.mono (PayMono.cons s oid payload _) rfl⟩
    · exact ⟨fun _ _ h => h, id⟩

/-- The invariant of one call (`step_mono`) holds of every history; write-once needs nothing of the starting store. -/
theorem history_mono (σ : Leaves) (hist : List Step) (hac : ∀ st, st ∈ hist → stepAcyclic st) (s : ExecState) :
    (∀ o p, s.payload o = some p → (hist.foldl (step σ) s).payload o = some p) ∧
      (EvalsOK s → EvalsOK (hist.foldl (step σ) s)) := by
  induction hist generalizing s with
  | nil => exact ⟨fun _ _ h => h, id⟩
  | cons st rest ih =>
    have h1 := step_mono σ s st (hac st (by simp))
    have h2 := ih (fun x hx => hac x (by simp [hx])) (step σ s st)
    exact ⟨fun o p hp => h2.1 o p (h1.1 o p hp), h2.2 ∘ h1.2⟩

/-- **C10 over histories.**  Along any history of `attach_payload` and `execute` calls, a payload
that is non-`None` at some point is the same object at every later point, and the upstream tree
of every materialization node is evaluated at most once in the whole history. -/
theorem history_write_once_evaluate_once (σ : Leaves) (hist : List Step)
    (hac : ∀ st, st ∈ hist → stepAcyclic st) (s : ExecState) (hok : EvalsOK s) :
    (∀ o p, s.payload o = some p → (hist.foldl (step σ) s).payload o = some p) ∧
      (hist.foldl (step σ) s).evals.Nodup :=
  have h := history_mono σ hist hac s
  ⟨h.1, (h.2 hok).1⟩

/-- **`Processor.process` is write-once too** (the trees of C07, any recursion budget, any starting state that satisfies
`TreeInv`): every payload that was in the store is still there afterwards - the same object, not a recomputed one -;
payloads were ADDED only to Materializations of the input tree and to nodes the Processor created itself; nothing was
attached on the database side. -/
theorem processing_is_write_once (σ : Leaves) (sq0 : SqlState) (h0 : sq0.payload 0 = none) (t : Rel)
    (fuel : Nat) (matAs : Option String) (s : ProcState) (reg : Nat → Option (List Row)) (hm : t.MultiIter)
    (hsql : t.SqlSrcOK σ sq0) (T : TreeInv σ reg sq0 t s) (hf : t.size ≤ fuel)
    (res : Res) (b : Bool) (s' : ProcState) (h : (processRec σ fuel t matAs).run.run s = (.ok (res, b), s')) :
    (∀ o p, s.st.payload o = some p → s'.st.payload o = some p) ∧
      (∀ o, (s'.st.payload o).isSome = true → (s.st.payload o).isSome = true ∨ o ∈ t.matOids ∨ s.nextTemp ≤ o) ∧
      s'.sq = s.sq := by
  obtain ⟨reg', _, P⟩ := process_multi_iter σ h0 t fuel matAs s reg hm hsql T hf res b s' h
  exact ⟨P.keep, P.newp, P.inv.sq.trans T.sq.symm⟩

/-- **Any number of `process` calls are write-once** (`ProcRuns`: each call starts in the state the previous one left):
after EVERY call of the sequence, every payload that was in the store before the first call is still there - the same
object -, payloads have only been added on Materializations of the input tree or on nodes the Processor created since,
and nothing was attached on the database side. -/
theorem repeated_processing_is_write_once (σ : Leaves) (sq0 : SqlState) (h0 : sq0.payload 0 = none) (t : Rel)
    (fuel : Nat) (hm : t.MultiIter) (hsql : t.SqlSrcOK σ sq0) (hf : t.size ≤ fuel)
    (runs : List (Res × ProcState)) (s : ProcState) (reg : Nat → Option (List Row)) (T : TreeInv σ reg sq0 t s)
    (hruns : ProcRuns σ fuel t s runs) :
    ∀ x, x ∈ runs →
      (∀ o p, s.st.payload o = some p → x.2.st.payload o = some p) ∧
      (∀ o, (x.2.st.payload o).isSome = true → (s.st.payload o).isSome = true ∨ o ∈ t.matOids ∨ s.nextTemp ≤ o) ∧
      x.2.sq = s.sq := by
  intro x hx
  obtain ⟨k, n, q, _⟩ := process_repeatedly_write_once σ h0 t fuel hm hsql hf runs s reg T hruns x hx
  exact ⟨k, n, q⟩

/-- The empty store is a valid starting point. -/
theorem evalsOK_empty : EvalsOK {} :=
  ⟨List.nodup_nil, fun _ ho => nomatch ho⟩

/-! ### Non-vacuity: executing a materialization twice evaluates its upstream tree once -/

private def ta : Tag := ⟨"a", true⟩
private def e0 : Engine := ⟨0, .iter⟩
private def leaf0 : Rel := .leaf 1 e0 [ta] "L" 2 (some 2) true 0
private def σ0 : Leaves := fun _ => [Row.empty.set ta 2, Row.empty.set ta 1]
private def tree0 : Rel := .mat 5 "m" (.unary (.sort [⟨.ref ta, true⟩]) leaf0 [ta])

example : tree0.Acyclic := by simp [tree0, Rel.Acyclic, Rel.matOids, leaf0]
example : ([Step.execute e0 tree0, Step.execute e0 tree0].foldl (step σ0) {}).evals = [5] := by decide +kernel
example : ([Step.execute e0 tree0, Step.execute e0 tree0].foldl (step σ0) {}).log = [1] := by decide +kernel

/-- `TreeInv` of `processing_is_write_once` is satisfiable: a materialized leaf, nothing stored yet, the Processor's
first temporary id still to be handed out -/
example : TreeInv (fun _ => []) (fun o => if o = 5 then some [] else none) {}
    (Rel.mat 5 "m" (.leaf 1 ⟨1, .iter⟩ [] "L" 0 none true 0)) { st := {}, sq := {} } ∧
    (Rel.mat 5 "m" (.leaf 1 ⟨1, .iter⟩ [] "L" 0 none true 0)).MultiIter := by
  refine ⟨{ wf := trivial, truthful := ⟨(fun r hr => by cases hr), Nat.zero_le _, (fun m hm => by cases hm)⟩, kd := rfl,
            regOK := ⟨rfl, trivial⟩, below := ⟨by decide, trivial⟩, store := StoreOK.empty _ _, sq := rfl,
            free := ⟨rfl, rfl⟩, fresh := fun _ _ => rfl, freshSt := fun _ _ => rfl,
            acyc := ⟨by simp [Rel.matOids], trivial⟩, pos := (fun o ho => by simp [Rel.matOids] at ho; omega),
            tpos := by decide },
    rfl, Or.inl ⟨rfl, rfl⟩⟩

/-- `ProcRuns` of `repeated_processing_is_write_once` is satisfiable from that very state: two consecutive `process`
calls succeed -/
example : ∃ runs, ProcRuns (fun _ => []) 5 (Rel.mat 5 "m" (.leaf 1 ⟨1, .iter⟩ [] "L" 0 none true 0))
    { st := {}, sq := {} } runs ∧ runs.length = 2 :=
  ⟨[_, _], ProcRuns.cons (b := _) rfl (ProcRuns.cons (b := _) rfl (ProcRuns.nil _)), rfl⟩

end DafRel.Props.C10
