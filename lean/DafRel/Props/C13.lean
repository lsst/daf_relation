/-
Property C13 — predicate folding, conjunction flattening and required-column sets are sound.

Every theorem quantifies over ALL predicate/expression trees (any depth, any arity, including
0- and 1-operand AND/OR) and ALL rows.  `val` is the specification ("direct evaluation"),
`eval` the checked model of the iteration engine's callables (`none` = exception).
-/
import DafRel.Lemmas.Trivial
import DafRel.Model.Op

namespace DafRel.Props.C13

open DafRel

/-- If `as_trivial()` answers `True`/`False`, the predicate has that value on every row. -/
theorem asTrivial_sound (p : Pred) (b : Bool) (h : p.asTrivial = some b) (r : Row) :
    p.val r = b :=
  Pred.asTrivial_val r p b h

/-- If `as_trivial()` answers `True`/`False`, the engine's callable, whenever it returns at all, returns that value
(it may raise only for a missing column, which well-formed trees exclude). -/
theorem asTrivial_sound_callable (p : Pred) (b v : Bool) (h : p.asTrivial = some b) (r : Row)
    (he : p.eval r = some v) : v = b :=
  Pred.asTrivial_eval r p b v h he

/-- `flatten_logical_and` returning a list: the AND of the conjuncts is equivalent to the predicate. -/
theorem flatten_sound (p : Pred) (ps : List Pred) (h : p.flattenAnd = some ps) (r : Row) :
    p.val r = Pred.valAll r ps := by
  simpa only [h] using Pred.flattenAnd_val r p

/-- `flatten_logical_and` returning `False`: the predicate is false on every row. -/
theorem flatten_false_sound (p : Pred) (h : p.flattenAnd = none) (r : Row) : p.val r = false := by
  simpa only [h] using Pred.flattenAnd_val r p

/-- The predicate stored by `Selection.__post_init__` is equivalent to the one supplied. -/
theorem selection_normalise_equiv (p : Pred) (r : Row) : p.normalise.val r = p.val r :=
  Pred.normalise_val r p

/-- The predicate a `Selection` operation holds is the normalised one. -/
theorem mkSel_equiv (p : Pred) (r : Row) :
    (match UOp.mkSel p with
     | .sel q => q.val r = p.val r
     | _ => False) :=
  Pred.normalise_val r p

/-- Required columns are sufficient for expressions, in direct evaluation. -/
theorem expr_columnsRequired_sufficient (e : Expr) (r : Row) :
    e.val (r.restrict e.columnsRequired) = e.val r :=
  Expr.val_congr _ _ e (Row.restrict_of_mem r _)

/-- Required columns are sufficient for expressions in the engine's callable too (same value, same
success/failure). -/
theorem expr_columnsRequired_sufficient_callable (e : Expr) (r : Row) :
    e.eval (r.restrict e.columnsRequired) = e.eval r :=
  Expr.eval_congr _ _ e (Row.restrict_of_mem r _)

/-- Required columns are sufficient for predicates (including containers). -/
theorem pred_columnsRequired_sufficient (p : Pred) (r : Row) :
    p.val (r.restrict p.columnsRequired) = p.val r :=
  Pred.val_congr _ _ p (Row.restrict_of_mem r _)

theorem pred_columnsRequired_sufficient_callable (p : Pred) (r : Row) :
    p.eval (r.restrict p.columnsRequired) = p.eval r :=
  Pred.eval_congr _ _ p (Row.restrict_of_mem r _)

/-- More generally, evaluation depends on the required columns only. -/
theorem pred_depends_only_on_required (p : Pred) (r1 r2 : Row)
    (h : ∀ t, t ∈ p.columnsRequired → r1 t = r2 t) : p.val r1 = p.val r2 ∧ p.eval r1 = p.eval r2 :=
  ⟨Pred.val_congr r1 r2 p h, Pred.eval_congr r1 r2 p h⟩

private def ta : Tag := ⟨"a", true⟩
private def pEx : Pred := .and [.lit true, .not (.or [.lit false, .and []]), .fn .lt [.ref ta, .lit 2] none]

example : pEx.asTrivial = some false := by decide
example : (Pred.and [.lit true, .fn .lt [.ref ta, .lit 2] none]).asTrivial = none := by decide
example : (Pred.or [.fn .lt [.ref ta, .lit 2] none, .not (.lit false)]).asTrivial = some true := by decide
example : (Pred.and [.and [.lit true, .ref ta], .fn .lt [.ref ta, .lit 2] none]).flattenAnd
    = some [.ref ta, .fn .lt [.ref ta, .lit 2] none] := by rfl
example : (Pred.and [.ref ta, .and [.lit false]]).flattenAnd = none := by rfl

end DafRel.Props.C13
