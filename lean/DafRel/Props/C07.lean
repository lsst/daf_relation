/-
Property C07 — the Processor evaluates multi-engine trees faithfully and only annotates payloads.

Claimed at proof level, partial: for trees whose operations run in ITERATION engines, fed by transfers between
iteration engines and by transfers OUT OF A SQL ENGINE (`Rel.MultiIter`), about the Processor model of
`Model/Processor.lean` (hooks instantiated as the harness instantiates them, tied to the real `Processor.process` by
the correspondence run).  Trees with operations or materializations INSIDE a SQL engine downstream of a transfer, joins
across engines and Select markers are validated by the oracle on every generated program.

The main statement is `multi_engine_process_then_execute_yields_direct_rows`.  Behind it stands
`multi_engine_processing_invariant`, an induction over the tree through the monadic model: every hook is called on a
source its own engine executes (`exec_correctS`, the form of C01's `exec_correct` for trees that hold processed
Transfers; out of a database: conform, compile, run - C17, C02) and returns the rows of the direct evaluation of that
source; every payload attached - to a new Transfer node with a FRESH allocation id, or to a Materialization of the
input - holds the rows registered for that marker; re-applied operations (`operation.apply(new_target)`,
`binary.apply`) preserve rows (C05); a chain operand that is statically empty is dropped only when it really is empty
(C06).  The other theorems: processed relations and trees are left alone, a single-engine tree is only annotated, and
when the hooks run.
-/
import DafRel.Model.Processor
import DafRel.Spec.Processor
import DafRel.Lemmas.ProcBasics
import DafRel.Lemmas.ProcIter
import DafRel.Lemmas.ProcMulti

namespace DafRel.Props.C07

open DafRel

/-- A relation that already holds a payload is returned as it is (`same`): no hook is called, nothing is attached, the
state does not change - at any recursion budget, for any `materialize_as`. -/
theorem processed_relation_is_left_alone (σ : Leaves) (fuel : Nat) (orig : Rel) (matAs : Option String)
    (s : ProcState) (h : (s.payloadOf orig).isSome = true) :
    (processRec σ (fuel+1) orig matAs).run.run s = (.ok (.same, true), s) :=
  processRec_cached σ fuel orig matAs s h

/-- `Processor.process` on a relation that holds a payload: the relation itself, no hook, no new payload. -/
theorem reprocessing_calls_no_hook (σ : Leaves) (st : ExecState) (sq : SqlState) (t : Rel)
    (h : (({ st := st, sq := sq } : ProcState).payloadOf t).isSome = true) :
    processTop σ st sq t = (.ok .same, { st := st, sq := sq }) :=
  processTop_eq_ok.mpr ⟨_, processRec_cached σ (defaultFuel - 1) t none _ h⟩

/-- A tree all of whose leaves and markers hold payloads (`Rel.Settled`: what a processed tree looks like) is returned as
the SAME object, with no hook call, no payload attached and no state change: processing is idempotent on its own
results. -/
theorem fully_processed_tree_is_returned_unchanged (σ : Leaves) (s : ProcState) (t : Rel) (fuel : Nat)
    (matAs : Option String) (hs : t.Settled s) (hf : t.size ≤ fuel) :
    ∃ b, (processRec σ fuel t matAs).run.run s = (.ok (.same, b), s) :=
  processRec_settled σ s t fuel matAs hs hf

/-- **The Processor only annotates a single-engine tree** (`Rel.PlainIter`, nested to any depth; it excludes a chain
with a statically empty operand, which `process` replaces by the other operand): the SAME tree comes back, no node is
created, the payload store stays right (`StoreOK`: every payload holds the rows registered for its
marker - for the materializations of the tree, the rows of the direct evaluation of their targets, which the
`materialize` hook computes through the engine model of C01), a processed materialization holds a payload, payloads are
write-once and new ones sit on Materializations of the tree only. -/
theorem single_engine_tree_is_only_annotated (σ : Leaves) (reg : Nat → Option (List Row)) (e : Engine)
    (hek : e.kind = .iter) (t : Rel) (fuel : Nat) (matAs : Option String) (s : ProcState)
    (hp : t.PlainIter e) (hio : t.IterOK) (hwf : t.WF) (htr : t.Truthful σ) (hkd : keyDetermined σ t = true)
    (hreg : t.RegOK σ reg) (hs : StoreOK σ reg s.st) (hq : t.sqFree s.sq) (hac : t.Acyclic) (hf : t.size ≤ fuel) :
    ∃ s', (processRec σ fuel t matAs).run.run s = (.ok (.same, t.procFlag), s') ∧ StoreOK σ reg s'.st ∧
      s'.nextTemp = s.nextTemp ∧ (t.procFlag = true → (s'.payloadOf t).isSome = true) ∧
      (∀ o p, s.st.payload o = some p → s'.st.payload o = some p) ∧
      (∀ o, (s'.st.payload o).isSome = true → (s.st.payload o).isSome = true ∨ o ∈ t.matOids) := by
  obtain ⟨s', h, P⟩ := process_plain_iter σ reg e hek t fuel matAs s hp hio hwf htr hkd hreg hs hq hac hf
  exact ⟨s', h, P.store, P.temp, P.cached, P.keep, P.new⟩

/-- **Process, then execute, yields the direct rows** (single iteration engine): `process` returns the tree itself. -/
theorem process_then_execute_yields_direct_rows (σ : Leaves) (reg : Nat → Option (List Row)) (e : Engine)
    (hek : e.kind = .iter) (t : Rel) (st : ExecState) (hp : t.PlainIter e) (hio : t.IterOK) (hwf : t.WF)
    (htr : t.Truthful σ) (hkd : keyDetermined σ t = true) (hreg : t.RegOK σ reg) (hs : StoreOK σ reg st)
    (hac : t.Acyclic) (hf : t.size ≤ defaultFuel) :
    ∃ ps, processTop σ st {} t = (.ok .same, ps) ∧
      ∃ it s', exec σ t.engine t ps.st = .ok (it, s') ∧ it.rows σ = .ok (sem σ t) := by
  obtain ⟨s', h, P⟩ := process_plain_iter σ reg e hek t defaultFuel none { st := st, sq := {} } hp hio hwf htr hkd
    hreg hs (sqFree_empty t) hac hf
  obtain ⟨it, s'', a, b, -⟩ := exec_correct σ reg t t.engine s'.st hio hwf htr hkd hreg P.store rfl
  exact ⟨s', processTop_eq_ok.mpr ⟨_, h⟩, it, s'', a, b⟩

/-- **What processing a multi-engine tree achieves** (every recursion budget, any `materialize_as`, any starting
state that satisfies `TreeInv`): the registry of marker contents extends to the fresh nodes (`RegExt`), and relative to
it (`ProcMultiOK`) the returned tree is well-formed, truthful, executable by the iteration engine (`IterOKs`: Transfers
out of a database hold their payload), has a right payload store, the rows and columns of the input and its engine. -/
theorem multi_engine_processing_invariant (σ : Leaves) (sq0 : SqlState) (h0 : sq0.payload 0 = none) (t : Rel)
    (fuel : Nat) (matAs : Option String) (s : ProcState) (reg : Nat → Option (List Row)) (hm : t.MultiIter)
    (hsql : t.SqlSrcOK σ sq0) (T : TreeInv σ reg sq0 t s) (hf : t.size ≤ fuel)
    (res : Res) (b : Bool) (s' : ProcState) (h : (processRec σ fuel t matAs).run.run s = (.ok (res, b), s')) :
    ∃ reg', RegExt reg reg' s.nextTemp ∧ ProcMultiOK σ reg' sq0 t s matAs res b s' :=
  process_multi_iter σ h0 t fuel matAs s reg hm hsql T hf res b s' h

/-- **Only the input's materializations gain payloads.**  After `process` the payload store of the iteration engines
holds a payload where one was before (write-once: the same object), on a Materialization node OF THE INPUT TREE, or on
a node the Processor created itself (an allocation id it handed out) - so a Transfer node of the input never gains a
payload and leaves are untouched; the database-side payload store is unchanged. -/
theorem only_input_materializations_gain_payloads (σ : Leaves) (sq0 : SqlState) (h0 : sq0.payload 0 = none) (t : Rel)
    (fuel : Nat) (matAs : Option String) (s : ProcState) (reg : Nat → Option (List Row)) (hm : t.MultiIter)
    (hsql : t.SqlSrcOK σ sq0) (T : TreeInv σ reg sq0 t s) (hf : t.size ≤ fuel)
    (res : Res) (b : Bool) (s' : ProcState) (h : (processRec σ fuel t matAs).run.run s = (.ok (res, b), s')) :
    (∀ o, (s'.st.payload o).isSome = true → (s.st.payload o).isSome = true ∨ o ∈ t.matOids ∨ s.nextTemp ≤ o) ∧
      (∀ o p, s.st.payload o = some p → s'.st.payload o = some p) ∧ s'.sq = s.sq ∧
      (∀ o, o ∈ (res.get t).matOids → o ∈ t.matOids ∨ s.nextTemp ≤ o) := by
  obtain ⟨reg', _, P⟩ := process_multi_iter σ h0 t fuel matAs s reg hm hsql T hf res b s' h
  exact ⟨P.newp, P.keep, P.inv.sq.trans T.sq.symm, P.mats⟩

/-- **Process a multi-engine tree, execute the result: the rows of direct evaluation.**  For every tree of leaves, unary
operations, chains, transfers between iteration engines (statically trivial ones included), transfers out of a SQL
engine whose source is a raw SQL tree over tables, and materializations, nested to any depth: whenever
`Processor.process` succeeds, the returned tree has the engine and the columns of the input, and executing it in its
final engine yields exactly the rows - values, multiplicity, order - of the direct evaluation of the input. -/
theorem multi_engine_process_then_execute_yields_direct_rows (σ : Leaves) (reg : Nat → Option (List Row)) (t : Rel)
    (st : ExecState) (sq : SqlState) (h0 : sq.payload 0 = none) (hm : t.MultiIter) (hsql : t.SqlSrcOK σ sq)
    (hwf : t.WF) (htr : t.Truthful σ) (hkd : keyDetermined σ t = true) (hreg : t.RegOK σ reg)
    (hb : t.markersBelow tempBase) (hs : StoreOK σ reg st) (hfree : t.sqFree sq)
    (hfresh : ∀ o, tempBase ≤ o → sq.payload o = none) (hfreshSt : ∀ o, tempBase ≤ o → st.payload o = none)
    (hac : t.Acyclic) (hpos : ∀ o, o ∈ t.matOids → 0 < o) (hf : t.size ≤ defaultFuel)
    (res : Res) (ps : ProcState) (h : processTop σ st sq t = (.ok res, ps)) :
    (res.get t).engine = t.engine ∧ (∀ u, u ∈ (res.get t).columns ↔ u ∈ t.columns) ∧
      ∃ it s', exec σ (res.get t).engine (res.get t) ps.st = .ok (it, s') ∧ it.rows σ = .ok (sem σ t) := by
  obtain ⟨b, hr⟩ := processTop_eq_ok.mp h
  obtain ⟨reg', -, P⟩ := process_multi_iter σ h0 t defaultFuel none { st := st, sq := sq } reg hm hsql
    { wf := hwf, truthful := htr, kd := hkd, regOK := hreg, below := hb, store := hs, sq := rfl, free := hfree,
      fresh := hfresh, freshSt := hfreshSt, acyc := hac, pos := hpos, tpos := Nat.succ_pos _ } hf res b ps hr
  exact P.executes

/-- **Any number of repeated `process()` calls on the same tree** (`ProcRuns`: each starts in the state the previous
one left): every call returns a tree with the engine and columns of the input that executes to exactly the rows of the
direct evaluation. -/
theorem repeated_processing_yields_direct_rows (σ : Leaves) (sq0 : SqlState) (h0 : sq0.payload 0 = none) (t : Rel)
    (fuel : Nat) (hm : t.MultiIter) (hsql : t.SqlSrcOK σ sq0) (hf : t.size ≤ fuel)
    (runs : List (Res × ProcState)) (s : ProcState) (reg : Nat → Option (List Row)) (T : TreeInv σ reg sq0 t s)
    (hruns : ProcRuns σ fuel t s runs) :
    ∀ x, x ∈ runs → (x.1.get t).engine = t.engine ∧ (∀ u, u ∈ (x.1.get t).columns ↔ u ∈ t.columns) ∧
      ∃ it s'', exec σ (x.1.get t).engine (x.1.get t) x.2.st = .ok (it, s'') ∧ it.rows σ = .ok (sem σ t) :=
  fun x hx =>
    let ⟨_, _, _, _, P⟩ := process_runs σ h0 t fuel hm hsql hf runs s reg T hruns x hx
    P.executes

/-- A statically trivial Transfer gets the destination engine's trivial payload: no hook is called, and the node
that receives the payload is a NEW Transfer (a fresh allocation id) over the untouched target. -/
theorem trivial_transfer_calls_no_hook (σ : Leaves) (fuel : Nat) (oid : Nat) (dest : Engine) (target : Rel)
    (matAs : Option String) (s : ProcState)
    (hno : (s.payloadOf (.transfer oid dest target)).isSome = false)
    (htriv : (Rel.transfer oid dest target).isJoinIdentity = true ∨ (Rel.transfer oid dest target).maxRows = some 0) :
    ∃ s', (processRec σ (fuel+1) (.transfer oid dest target) matAs).run.run s =
        (.ok (.new (.transfer s.nextTemp dest target), matAs.isSome), s') ∧
      s'.hooks = s.hooks ∧ s'.nextTemp = s.nextTemp + 1 := by
  obtain ⟨p, s1, hp, hh, ht⟩ :=
    trivialPayload_ok dest (Rel.transfer oid dest target).isJoinIdentity (Rel.transfer oid dest target).columns s
  rw [processRec_transfer σ fuel oid dest target matAs s hno, if_pos (by simpa [Rel.isTrivial] using htriv), hp,
    bindRun_ok, bindRun_ok, ht]
  exact ⟨_, rfl, by cases p <;> exact hh, by cases p <;> rfl⟩

/-- **The `materialize` hook runs only for a relation that is neither statically trivial nor already materialized on
the way**: when the Materialization being processed is statically a join identity or statically empty, or its processed
target reports a payload (`persisted`), `matPayload` leaves the hook log untouched - in either engine family. -/
theorem materialize_hook_only_when_needed (σ : Leaves) (oid : Nat) (name : String) (target x : Rel) (persisted : Bool)
    (s : ProcState)
    (h : persisted = true ∨ (Rel.mat oid name target).isJoinIdentity = true ∨ (Rel.mat oid name target).maxRows = some 0) :
    ((matPayload σ (.mat oid name target) target x name persisted) s).2.hooks = s.hooks := by
  show ((matPayload σ (.mat oid name target) target x name persisted).run.run s).2.hooks = s.hooks
  rw [run_matPayload]
  by_cases hper : persisted = true
  · rw [if_pos hper]
  · obtain ⟨p, s1, hp, hh, -⟩ :=
      trivialPayload_ok target.engine (Rel.mat oid name target).isJoinIdentity (Rel.mat oid name target).columns s
    rw [if_neg hper, if_pos (by simpa [Rel.isTrivial] using h.resolve_left hper), hp]
    exact hh

private def ta : Tag := ⟨"a", true⟩
private def e1 : Engine := ⟨1, .iter⟩
private def e0 : Engine := ⟨0, .sql⟩
private def leafP : Rel := .leaf 1 e1 [ta] "L" 0 none true 0
private def doomed : Rel := .leaf 2 e1 [ta] "D" 0 (some 0) true 0
private def s0 : ProcState := { st := {}, sq := {} }
example : (s0.payloadOf leafP).isSome = true := by decide
example : (Rel.unary (.sel (.lit true)) (Rel.binary .chain leafP leafP [ta]) [ta]).Settled s0 := by
  have hp : (s0.payloadOf leafP).isSome = true := by decide
  exact ⟨hp, hp, by decide, by decide⟩
example : (s0.payloadOf (.transfer 7 e0 doomed)).isSome = false ∧ (Rel.transfer 7 e0 doomed).maxRows = some 0 := by
  decide

/-- the premise of `materialize_hook_only_when_needed` is met -/
example : (Rel.mat 12 "z" doomed).maxRows = some 0 := by decide

private def σ1 : Leaves := fun _ => [fun t => if t = ta then some 1 else none]
private def matT : Rel := .mat 5 "m" (.unary (.sel (.fn .gt [.ref ta, .lit 0] none)) leafP [ta])
private def reg1 : Nat → Option (List Row) := fun o => if o = 5 then some (sem σ1 (.unary (.sel (.fn .gt [.ref ta, .lit 0] none)) leafP [ta])) else none
/-- a materialized selection over a one-row leaf meets every hypothesis of the two single-engine theorems -/
example : matT.PlainIter e1 ∧ matT.IterOK ∧ matT.WF ∧ matT.Truthful σ1 ∧ keyDetermined σ1 matT = true ∧
    matT.RegOK σ1 reg1 ∧ StoreOK σ1 reg1 {} ∧ matT.size ≤ defaultFuel := by
  exact ⟨rfl, ⟨rfl, rfl, rfl⟩, ⟨trivial, rfl, by decide⟩,
    ⟨.cons (RowHasCols.none.ite_cons ta 1) (.nil _), Nat.zero_le _, fun m hm => by cases hm⟩,
    rfl, ⟨rfl, trivial⟩, StoreOK.empty σ1 reg1, by decide⟩

private def e2 : Engine := ⟨2, .iter⟩
/-- a selection over a transfer (engine 1 -> engine 2) of a materialized selection is in the class, and processing
succeeds -/
private def multiT : Rel := .unary (.sel (.fn .gt [.ref ta, .lit 0] none)) (.transfer 6 e2 matT) [ta]
example : multiT.MultiIter ∧ multiT.IterOK ∧ multiT.WF ∧ multiT.markersBelow tempBase ∧ multiT.size ≤ defaultFuel := by
  refine ⟨⟨⟨rfl, (by decide : e2 ≠ e1), Or.inl ⟨rfl, rfl, Or.inl ⟨rfl, ⟨rfl, rfl, rfl⟩⟩⟩⟩, rfl, rfl⟩,
    ⟨⟨⟨rfl, rfl, rfl⟩, rfl⟩, rfl, rfl⟩, ⟨⟨trivial, rfl, by decide⟩, rfl, by decide⟩, ⟨by decide, by decide, trivial⟩,
    by decide⟩
example : (match processTop σ1 {} {} multiT with
    | (.ok res, _) => (res.get multiT).engine.id
    | _ => 99) = 2 := by decide +kernel

private def sqlLeaf : Rel := .leaf 3 e0 [ta] "T" 0 none true 0
private def sqlSrc : Rel := .unary (.sel (.fn .ge [.ref ta, .lit 1] none)) sqlLeaf [ta]
/-- a selection (iteration engine 1) over a transfer OUT OF the SQL engine of a selection over a table: in the class;
processing succeeds and executing the result returns the row of the direct evaluation -/
private def crossT : Rel := .unary (.sel (.fn .gt [.ref ta, .lit 0] none)) (.transfer 8 e1 sqlSrc) [ta]
private def sqS : SqlState := { payloads := [(3, tablePayload "T" 3 0 [ta])], tables := [σ1 3] }
example : crossT.MultiIter ∧ crossT.WF ∧ crossT.markersBelow tempBase ∧ crossT.sqFree sqS ∧ sqS.payload 0 = none := by
  refine ⟨⟨⟨rfl, (by decide : e1 ≠ e0), Or.inr ⟨rfl, rfl, rfl, rfl⟩⟩, rfl, rfl⟩, ⟨⟨trivial, rfl, by decide⟩, rfl, by decide⟩, ⟨by decide, trivial⟩,
    ⟨rfl, fun h => by cases h⟩, rfl⟩
example : (match processTop σ1 {} sqS crossT with
    | (.ok res, ps) =>
      (match exec σ1 e1 (res.get crossT) ps.st with
       | .ok (it, _) => (it.rows σ1).toOption.map (fun rows => rows.map (fun r => r ta))
       | .error _ => none)
    | _ => none) = some [some 1] := by decide +kernel

/-- a MATERIALIZATION OF A CHAIN whose left branch is statically empty and whose right branch is a leaf (the chain is
pruned to the leaf, `Materialization.simplify` adds nothing, the leaf's payload goes to the input's Materialization):
in the class; processing succeeds without any hook and executing returns the direct rows -/
private def prunedM : Rel := .mat 11 "pm" (.binary .chain doomed leafP [ta])
example : prunedM.MultiIter ∧ prunedM.WF ∧ prunedM.markersBelow tempBase := by
  refine ⟨⟨rfl, Or.inr ⟨⟨rfl, rfl⟩, ⟨rfl, rfl⟩, rfl, trivial⟩⟩, ⟨trivial, trivial, rfl, fun _ => Iff.rfl⟩,
    ⟨by decide, trivial, trivial⟩⟩
example : (match processTop σ1 {} {} prunedM with
    | (.ok res, ps) =>
      (match exec σ1 e1 (res.get prunedM) ps.st with
       | .ok (it, _) => ((it.rows σ1).toOption.map (fun rows => rows.map (fun r => r ta)),
          (ps.st.payload 11).isSome, ps.hooks.length)
       | .error _ => (none, false, 0))
    | _ => (none, false, 0)) = (some [some 1], true, 0) := by decide +kernel

/-- a selection over a MATERIALIZATION DIRECTLY AFTER A TRANSFER out of the SQL engine: in the class; the input's
Materialization (id 9) holds the payload, the input's Transfer (id 8) none, one hook ran, executing returns the direct
rows -/
private def crossM : Rel :=
  .unary (.sel (.fn .gt [.ref ta, .lit 0] none)) (.mat 9 "mx" (.transfer 8 e1 sqlSrc)) [ta]
example : crossM.MultiIter ∧ crossM.WF ∧ crossM.markersBelow tempBase ∧ crossM.sqFree sqS := by
  refine ⟨⟨⟨rfl, Or.inr ⟨rfl, (by decide : e1 ≠ e0), Or.inr ⟨rfl, rfl, rfl, rfl⟩⟩⟩, rfl, rfl⟩,
    ⟨⟨trivial, rfl, by decide⟩, rfl, by decide⟩, ⟨by decide, by decide, trivial⟩, ⟨rfl, rfl, fun h => by cases h⟩⟩
example : (match processTop σ1 {} sqS crossM with
    | (.ok res, ps) =>
      (match exec σ1 e1 (res.get crossM) ps.st with
       | .ok (it, _) => ((it.rows σ1).toOption.map (fun rows => rows.map (fun r => r ta)),
          (ps.st.payload 9).isSome, (ps.st.payload 8).isSome, ps.hooks.length)
       | .error _ => (none, false, false, 0))
    | _ => (none, false, false, 0)) = (some [some 1], true, false, 1) := by decide +kernel

/-- two `process` calls in a row on `crossM`: the second runs NO further hook (the log still has one entry), and its
result executes to the direct rows -/
example : (match (processRec σ1 defaultFuel crossM none).run.run { st := {}, sq := sqS } with
    | (.ok _, s1) =>
      (match (processRec σ1 defaultFuel crossM none).run.run s1 with
       | (.ok (res2, _), s2) =>
         (match exec σ1 e1 (res2.get crossM) s2.st with
          | .ok (it, _) => ((it.rows σ1).toOption.map (fun rows => rows.map (fun r => r ta)), s2.hooks.length)
          | .error _ => (none, 0))
       | _ => (none, 0))
    | _ => (none, 0)) = (some [some 1], 1) := by decide +kernel

/-- the hypothesis `Rel.Acyclic` of the theorems -/
example : matT.Acyclic ∧ multiT.Acyclic ∧ crossT.Acyclic ∧ crossM.Acyclic := by
  simp [matT, multiT, crossT, crossM, sqlSrc, sqlLeaf, leafP, Rel.Acyclic, Rel.matOids]

end DafRel.Props.C07
