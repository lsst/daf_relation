/-
Property C02 — SQL compilation preserves relational semantics.

Proved, partial, for every recursion budget and every depth.  Excluded: the list semantics of SQL (`Query.eval`,
`Model/Sql.lean`) and SQLite's acceptance of the emitted text, which are trusted - validated, not proved: every
generated query is run on SQLite (both scan orders) and its rows are compared with the model's - and what the
hypotheses of the last two groups rule out (below).  "The rows" always means values, multiplicity and order.

Three groups of theorems.  TREE BUILDING (`sql_tree_building_preserves_rows` .. `sql_history_tree_sem`), in the
reference semantics: however the engine commuted operations, merged them into one SELECT or nested subqueries, the
tree it builds has the rows of the operations applied in sequence.  COMPILATION (`emitted_*`, the two halves of
`compile_sound`): the emitted query evaluates to the rows of the tree.  END TO END (`to_executable_*`,
`sql_history_executes_*`): `Engine.to_executable`, i.e. conform then compile, followed by evaluation.
Hypotheses of the last two groups: `Rel.SqlReady` (Spec/SqlCompile.lean), which splits into `Rel.Faithful` - the
payload held by a leaf or a processed marker stands for its rows: the database table holds what the reference
semantics says the relation contains - and the decidable rest `Rel.structReady`, which the driver reports on every
`sqlexec`; `Query.hasDup = false`: no FROM clause names the same item twice.
-/
import DafRel.Lemmas.ConformSound
import DafRel.Props.C17
import DafRel.Lemmas.SqlFactories
import DafRel.Lemmas.SqlRunSound

namespace DafRel.Props.C02

variable {I : NodeInv}

open DafRel

/-- Applying any of the seven unary operations inside the SQL engine to a raw SQL tree (leaves, materializations,
transfers, unary operations, chains, joins) yields a well-formed relation with the rows and columns of the operation
applied to the target - through conform, slot merging, subquery nesting and projection push-down into UNION
branches. -/
theorem sql_tree_building_preserves_rows (σ : Leaves) (st : Store) (fuel : Nat) (op : UOp) (t : Rel) (res : Res)
    (hwf : t.WF) (htr : t.Truthful σ) (hraw : t.RawSql) (h : applyOp st fuel (.u op) t {} = .ok res) :
    (res.get t).WF ∧ sem σ (res.get t) = op.sem (op.appliedColumns t.columns) (sem σ t) ∧
      (∀ c, c ∈ (res.get t).columns ↔ c ∈ op.appliedColumns t.columns) :=
  let F := C17.sql_apply_sound σ st fuel op t res hwf htr hraw h
  ⟨F.wf, F.sem_eq, F.cols⟩

/-- ... and so does conforming a raw tree. -/
theorem conformed_tree_has_same_rows (σ : Leaves) (st : Store) (fuel : Nat) (t : Rel) (res : Res)
    (hwf : t.WF) (htr : t.Truthful σ) (hraw : t.RawSql) (h : conform st fuel t = .ok res) :
    sem σ (res.get t) = sem σ t ∧ (∀ c, c ∈ (res.get t).columns ↔ c ∈ t.columns) :=
  let C := C17.conform_preserves_rows σ st fuel t res hwf htr hraw h
  ⟨C.sem_eq, C.cols⟩

/-- Joining two Selects - whose projections are stripped for the join and re-applied afterwards unless a hidden column
would shadow a column of the other operand - yields the natural join on the common columns plus the predicate of the
*visible* rows: no value comes from a column an upstream projection had removed. -/
theorem join_of_selects_is_the_join (σ : Leaves) (st : Store) (fuel fl fr : Nat) (j : JoinOp) (tl tr : Rel)
    (cl cr : Res) (hwl : tl.WF) (htl : tl.Truthful σ) (hrl : tl.RawSql) (hwr : tr.WF) (htr : tr.Truthful σ)
    (hrr : tr.RawSql) (hl : conform st fl tl = .ok cl) (hr : conform st fr tr = .ok cr)
    (hcl : j.minCols.subset tl.columns = true) (hcr : j.minCols.subset tr.columns = true)
    (hp : j.pred.columnsRequired.subset (tl.columns.union tr.columns) = true) (heng : tl.engine = tr.engine)
    (res : BRes) (h : appendBinarySel st (fuel+1) (.join j) (cl.get tl) (cr.get tr) = .ok res) :
    ∃ S, res = .new S ∧ SelOK σ S ∧
      sem σ S = joinRows j.minCols j.pred (sem σ tl) (sem σ tr) ∧
      (∀ c, c ∈ S.columns ↔ c ∈ tl.columns.union tr.columns) := by
  obtain ⟨g1, c1⟩ := (treeBuild_sound σ st fl).conform tl cl (raw_good σ tl hwl htl hrl) hl
  obtain ⟨g2, c2⟩ := (treeBuild_sound σ st fr).conform tr cr (raw_good σ tr hwr htr hrr) hr
  obtain ⟨S, hS, _, okS, semS, colS, _⟩ :=
    join_conformed_sound σ st (fuel+1) j tl tr _ _ g1 g2 c1 c2 hcl hcr hp heng res h
  exact ⟨S, hS, okS, semS, colS⟩

/-- `relation.join(rhs, predicate)` inside one SQL engine returns the join on a set of columns of both operands and
the predicate.  The set is the automatically resolved common columns; the statement leaves it existential. -/
theorem join_factory_is_the_join (σ : Leaves) (st : Store) (t rhs : Rel) (pred : Pred) (bt tr : Bool) (res : Res)
    (hwt : t.WF) (htt : t.Truthful σ) (hrt : t.RawSql) (hwr : rhs.WF) (htr : rhs.Truthful σ) (hrr : rhs.RawSql)
    (heng : rhs.engine = t.engine) (h : Rel.joinWith st t rhs pred bt tr = .ok res) :
    ∃ common, common.subset rhs.columns = true ∧ common.subset t.columns = true ∧
      sem σ (res.get t) = joinRows common pred (sem σ t) (sem σ rhs) ∧
      (∀ c, c ∈ (res.get t).columns ↔ c ∈ t.columns.union rhs.columns) := by
  obtain ⟨common, T, hT, _, semT, colT, _, c1, c2⟩ :=
    C17.sql_join_factory_sound σ st t rhs pred bt tr res hwt htt hrt hwr htr hrr heng h
  subst hT
  exact ⟨common, c1, c2, semT, colT⟩

/-- For every construction history inside one SQL engine (leaves, any number of the seven unary operations, chains,
joins with automatic common columns and an optional predicate, materializations, nested to any depth) the tree the
factories build has the rows and columns of the direct evaluation of the operation sequence (`SqlBuild.direct`:
natural join on the shared key columns plus the predicate, concatenation for chain), and lives in that engine. -/
theorem sql_history_tree_sem (σ : Leaves) (st : Store) (eng : Engine) (hk : eng.kind = .sql)
    (b : SqlBuild) (r : Rel) (hok : b.ok σ) (h : b.tree st eng = .ok r) :
    sem σ r = b.direct σ ∧ (∀ c, c ∈ r.columns ↔ c ∈ b.cols) ∧ r.WF ∧ r.engine = eng :=
  let B := sql_build_invariant σ st eng hk b r hok h
  ⟨B.sem_eq, B.cols, B.good.wf, B.engine⟩

/-- For every Good Select tree - whatever nesting of subqueries, joins and UNIONs - and every recursion budget: the
query `_select_to_executable` returns evaluates, under the list semantics of SQL, to the rows
of the reference semantics of the tree. -/
theorem emitted_select_returns_reference_rows (σ : Leaves) (s : SqlState) (fuel : Nat) (S : Rel) (ctr : Nat)
    (q : Query) (c : Nat) (hg : Good I σ S) (hs : S.isSelect = true) (hrd : S.SqlReady s s.tables σ)
    (h : compileSelect s fuel S ctr = .ok (q, c)) (hdup : q.hasDup = false) :
    (Query.eval s.tables q).rows = sem σ S :=
  (compile_sound σ s fuel).select S ctr q c hg hs hrd h hdup

/-- ... and so does the payload `to_payload` builds for any Good tree (used as a subquery / join operand). -/
theorem emitted_payload_stands_for_reference_rows (σ : Leaves) (s : SqlState) (fuel : Nat) (t : Rel) (ctr : Nat)
    (p : SqlPayload) (c : Nat) (hg : Good I σ t) (hrd : t.SqlReady s s.tables σ)
    (h : toPayload s fuel t ctr = .ok (p, c)) (hdup : From.hasDup p.frm = false) (hnd : (From.names p.frm).Nodup) :
    sem σ t = (payEnvs s.tables p).map (rowOf p.avail) :=
  ((compile_sound σ s fuel).payload t ctr p c hg hrd h hdup hnd).rows_eq

/-- A raw SQL tree through `Engine.to_executable` and the database: the rows of its reference semantics. -/
theorem to_executable_returns_reference_rows (σ : Leaves) (s : SqlState) (st : Store) (r : Rel) (out : EvalOut)
    (b : Bool) (hwf : r.WF) (htr : r.Truthful σ) (hraw : r.RawSql)
    (hready : ∀ c, conform st defaultFuel r = .ok c →
      (c.get r).structReady s = true ∧ (c.get r).Faithful s s.tables σ)
    (hrun : sqlRun s st r = .inr (out, b)) : out.rows = sem σ r :=
  sqlRun_sound_good σ s st r out b (raw_good σ r hwf htr hraw) hready hrun

/-- The semantic hypothesis on the tree the user built (`treeBuild_sound` run with the node invariant `payInv`); only
the decidable check is asked of the conformed one. -/
theorem to_executable_returns_reference_rows_of_faithful_input (σ : Leaves) (s : SqlState) (st : Store) (r : Rel)
    (out : EvalOut) (b : Bool) (hwf : r.WF) (htr : r.Truthful σ) (hraw : r.RawSql)
    (hF : r.Faithful s s.tables σ) (h0 : s.payload 0 = none)
    (hready : ∀ c, conform st defaultFuel r = .ok c → (c.get r).structReady s = true)
    (hrun : sqlRun s st r = .inr (out, b)) : out.rows = sem σ r :=
  sqlRun_sound_payInv σ s st r out b h0
    (raw_goodI σ r hwf htr hraw (atomsOK_of_faithful s s.tables σ h0 r hraw hF)) hready hrun

/-- A construction history through the factories, `Engine.to_executable` and the database: the rows of its direct
evaluation. -/
theorem sql_history_executes_to_direct_rows (σ : Leaves) (s : SqlState) (st : Store) (eng : Engine)
    (hk : eng.kind = .sql) (bld : SqlBuild) (r : Rel) (out : EvalOut) (b : Bool) (hok : bld.ok σ)
    (h : bld.tree st eng = .ok r)
    (hready : ∀ c, conform st defaultFuel r = .ok c →
      (c.get r).structReady s = true ∧ (c.get r).Faithful s s.tables σ)
    (hrun : sqlRun s st r = .inr (out, b)) : out.rows = bld.direct σ :=
  let B := sql_build_invariant σ st eng hk bld r hok h
  (sqlRun_sound_good σ s st r out b B.good hready hrun).trans B.sem_eq

/-- From factory calls to database rows: only the LEAF tables are asked to hold the leaves' rows, and only the
decidable check is asked of the conformed tree. -/
theorem sql_history_executes_to_direct_rows_of_faithful_leaves (σ : Leaves) (s : SqlState) (st : Store) (eng : Engine)
    (hk : eng.kind = .sql) (bld : SqlBuild) (r : Rel) (out : EvalOut) (b : Bool) (hok : bld.ok σ)
    (h0 : s.payload 0 = none) (hl : bld.LeavesOK (payInv s s.tables σ h0) eng) (h : bld.tree st eng = .ok r)
    (hready : ∀ c, conform st defaultFuel r = .ok c → (c.get r).structReady s = true)
    (hrun : sqlRun s st r = .inr (out, b)) : out.rows = bld.direct σ :=
  -- the materializations the history creates are allocated at id 0, which holds no payload: nothing to stand for
  let B := sql_build_invariantI σ st eng hk
    (fun x ha hx _ => faithful_of_payload_none s s.tables σ x ha (hx ▸ h0)) bld r hok hl h
  (sqlRun_sound_payInv σ s st r out b h0 B.good hready hrun).trans B.sem_eq

/-- Where faithful payloads come from: a table that holds the rows. -/
theorem table_payload_is_faithful (tables : List (List Row)) (name : String) (uid idx : Nat) (cols : Cols)
    (rows : List Row) (htab : tables.getD idx [] = rows) (hr : RowsHaveCols rows cols) :
    rows = (payEnvs tables (tablePayload name uid idx cols)).map (rowOf (tablePayload name uid idx cols).avail) :=
  (tablePayload_paySem tables name uid idx cols rows htab hr).rows_eq

/-! Non-vacuity: a construction history (`h0`) and a raw tree (`rawJ`) over the same two one-row tables. -/

private def ta : Tag := ⟨"a", true⟩
private def tb : Tag := ⟨"b", false⟩
private def tc : Tag := ⟨"c", false⟩
private def e0 : Engine := ⟨0, .sql⟩
private def σ0 : Leaves := fun oid =>
  if oid = 1 then [fun t => if t = ta then some 1 else if t = tb then some 5 else none]
  else [fun t => if t = ta then some 1 else if t = tc then some 7 else none]
/-- the database state: one table per leaf -/
private def s0 : SqlState :=
  { payloads := [(1, tablePayload "L" 1 0 [ta, tb]), (2, tablePayload "M" 2 1 [ta, tc])],
    tables := [σ0 1, σ0 2] }
/-- (sorted, sliced L) joined with M -/
private def h0 : SqlBuild :=
  .join (.op (.slice 0 (some 3)) (.op (.sort [⟨.ref tb, false⟩]) (.leaf 1 [ta, tb] "L" 0 none 0)))
    (.leaf 2 [ta, tc] "M" 0 none 0) (.lit true)
private def r0 : Rel := ((h0.tree [] e0).toOption).getD default
private def leafL : Rel := .leaf 1 e0 [ta, tb] "L" 0 none true 0
private def leafM : Rel := .leaf 2 e0 [ta, tc] "M" 0 none true 0
/-- a RAW tree over the two tables: a selection over their join -/
private def rawJ : Rel :=
  .unary (.sel (.fn .gt [.ref tc, .lit 0] none)) (.binary (.join ⟨.lit true, [ta], some [ta]⟩) leafL leafM [ta, tb, tc]) [ta, tb, tc]

private theorem rows1 : RowsHaveCols (σ0 1) [ta, tb] :=
  .cons ((RowHasCols.none.ite_cons tb 5).ite_cons ta 1) (.nil _)
private theorem rows2 : RowsHaveCols (σ0 2) [ta, tc] :=
  .cons ((RowHasCols.none.ite_cons tc 7).ite_cons ta 1) (.nil _)
/-- `SqlBuild.ok`, `Rel.Truthful`, `Rel.Faithful` and `SqlBuild.LeavesOK` speak of the leaves only, and `h0` and `rawJ`
have the same two: they are truthful (no row-count bounds are declared) ... -/
private theorem truthful0 : leafL.Truthful σ0 ∧ leafM.Truthful σ0 :=
  ⟨⟨rows1, Nat.zero_le _, nofun⟩, ⟨rows2, Nat.zero_le _, nofun⟩⟩
/-- ... and the two tables of `s0` are faithful payloads for them. -/
private theorem faithful0 : leafL.Faithful s0 s0.tables σ0 ∧ leafM.Faithful s0 s0.tables σ0 :=
  ⟨fun _ hp => Option.some.inj hp ▸ tablePayload_paySem s0.tables "L" 1 0 [ta, tb] (σ0 1) rfl rows1,
    fun _ hp => Option.some.inj hp ▸ tablePayload_paySem s0.tables "M" 2 1 [ta, tc] (σ0 2) rfl rows2⟩

example : (h0.tree [] e0).toOption.map (fun r => (r.isSelect, r.columns)) =
    some (true, [ta, tb, tc]) := by decide +kernel
example : h0.ok σ0 := truthful0
example : h0.LeavesOK (payInv s0 s0.tables σ0 rfl) e0 := ⟨fun _ => faithful0.1, fun _ => faithful0.2⟩
/-- the history compiles, runs, and returns the joined row -/
example : (match sqlRun s0 [] r0 with
    | .inr (out, _) => out.rows.map (fun r => [r ta, r tb, r tc])
    | .inl _ => []) = [[some 1, some 5, some 7]] := by decide +kernel
/-- the conformed tree passes the decidable check -/
example : ((conform [] defaultFuel r0).toOption.map (fun c => (c.get r0).structReady s0)) = some true := by
  decide +kernel
/-- ... and holds faithful payloads (every leaf is one of the two, no marker holds a payload: `Rel.leavesIn`):
every hypothesis of `sql_history_executes_to_direct_rows` is met. -/
example : ∀ c, conform [] defaultFuel r0 = .ok c →
    (c.get r0).structReady s0 = true ∧ (c.get r0).Faithful s0 s0.tables σ0 := by
  intro c hc
  have h1 : ((conform [] defaultFuel r0).toOption.map (fun c =>
      (c.get r0).structReady s0 && (c.get r0).leavesIn s0 [(1, [ta, tb]), (2, [ta, tc])])) = some true := by
    decide +kernel
  rw [hc] at h1
  have h := Bool.and_eq_true_iff.mp (Option.some.inj h1)
  refine ⟨h.1, faithful_of_leavesIn s0 s0.tables σ0 _ ?_ _ h.2⟩
  exact List.forall_mem_cons.mpr ⟨faithful0.1, List.forall_mem_singleton.mpr faithful0.2⟩

/-- every hypothesis of `to_executable_returns_reference_rows_of_faithful_input` is met ... -/
example : rawJ.WF ∧ rawJ.Truthful σ0 ∧ rawJ.RawSql ∧ rawJ.Faithful s0 s0.tables σ0 ∧ s0.payload 0 = none :=
  ⟨⟨⟨trivial, trivial, by decide, by decide, by decide⟩, by decide, by decide⟩, truthful0,
    ⟨rfl, rfl, by decide, rfl⟩, faithful0, rfl⟩
/-- ... the conformed tree passes the decidable check, and the query returns the joined row -/
example : ((conform [] defaultFuel rawJ).toOption.map (fun c => (c.get rawJ).structReady s0)) = some true := by
  decide +kernel
example : (match sqlRun s0 [] rawJ with
    | .inr (out, _) => out.rows.map (fun r => [r ta, r tb, r tc])
    | .inl _ => []) = [[some 1, some 5, some 7]] := by decide +kernel

end DafRel.Props.C02
