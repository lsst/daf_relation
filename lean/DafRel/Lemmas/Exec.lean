/-
The iteration engine's `execute` (`exec`, `Model/IterExec.lean`) against the reference semantics.  `exec_eq` splits
`exec` into the exits that do not depend on the node class and the node step `execNode`; what a successful call does
to the payload store is proved by induction over successful calls (`exec_ok_ind`), what it returns by induction over
the tree.  The suffix `S` (`exec_correctS`, `Rel.IterOKs`) is for "relative to the payload store `s`", `M`
(`exec_correctM`, `ExecGoodM`) for "and the store only grows, on Materializations".  `reg` names, for every marker id,
the rows a payload attached there must have (`Rel.RegOK`, `Spec/Preds.lean`; the end of this file shows there is one).
-/
import DafRel.Model.IterExec
import DafRel.Lemmas.Metadata
import DafRel.Lemmas.Dedup
import DafRel.Lemmas.Expr
import DafRel.Lemmas.Lex

namespace DafRel

theorem ExecState.payload_congr {s s' : ExecState} (h : s'.payloads = s.payloads) (o : Nat) :
    s'.payload o = s.payload o := by simp [ExecState.payload, h]

theorem ExecState.payload_cons (s : ExecState) (oid : Nat) (it : Iterable) (o : Nat) :
    ({ s with payloads := (oid, it) :: s.payloads } : ExecState).payload o =
      if oid = o then some it else s.payload o := by
  simp only [ExecState.payload, List.find?_cons]
  split
  · next h => rw [if_pos (beq_iff_eq.mp h)]; rfl
  · next h => rw [if_neg (beq_eq_false_iff_ne.mp h)]

theorem StoreOK.empty (σ : Leaves) (reg : Nat → Option (List Row)) : StoreOK σ reg {} :=
  fun _ _ h => nomatch h

theorem StoreOK.of_payloads_eq {σ : Leaves} {reg : Nat → Option (List Row)} {s s' : ExecState}
    (h : StoreOK σ reg s) (he : s'.payloads = s.payloads) : StoreOK σ reg s' :=
  fun o it hp => h o it ((ExecState.payload_congr he o).symm.trans hp)

theorem StoreOK.cons {σ : Leaves} {reg : Nat → Option (List Row)} {s : ExecState}
    (h : StoreOK σ reg s) (oid : Nat) (it : Iterable) (rows : List Row) (hi : ItOK it)
    (hr : reg oid = some rows) (hrows : it.rows σ = .ok rows) :
    StoreOK σ reg { s with payloads := (oid, it) :: s.payloads } := by
  intro o it' hp
  rw [ExecState.payload_cons] at hp
  split at hp
  · next ho => cases hp; exact ho ▸ ⟨hi, rows, hr, hrows⟩
  · exact h o it' hp

/-- Payloads present in `s` are present in `s'`. -/
def PayMono (s s' : ExecState) : Prop := ∀ o, (s.payload o).isSome = true → (s'.payload o).isSome = true

theorem PayMono.refl (s : ExecState) : PayMono s s := fun _ h => h
theorem PayMono.trans {a b c : ExecState} (h1 : PayMono a b) (h2 : PayMono b c) : PayMono a c :=
  fun o h => h2 o (h1 o h)
theorem PayMono.of_payloads_eq {s s' : ExecState} (h : s'.payloads = s.payloads) : PayMono s s' :=
  fun o ho => (ExecState.payload_congr h o).symm ▸ ho
theorem PayMono.cons (s : ExecState) (oid : Nat) (it : Iterable) (ev : List Nat) :
    PayMono s { s with payloads := (oid, it) :: s.payloads, evals := ev } := by
  intro o ho
  refine (congrArg Option.isSome (ExecState.payload_cons s oid it o)).trans ?_
  split
  · rfl
  · exact ho

/-- Write-once: every payload of `s` is still there in `s'`, the same object. -/
def PayKeep (s s' : ExecState) : Prop := ∀ o p, s.payload o = some p → s'.payload o = some p

theorem PayKeep.refl (s : ExecState) : PayKeep s s := fun _ _ h => h
theorem PayKeep.trans {a b c : ExecState} (h1 : PayKeep a b) (h2 : PayKeep b c) : PayKeep a c :=
  fun o p h => h2 o p (h1 o p h)
theorem PayKeep.of_payloads_eq {s s' : ExecState} (h : s'.payloads = s.payloads) : PayKeep s s' :=
  fun o _ ho => (ExecState.payload_congr h o).trans ho
theorem PayKeep.mono {s s' : ExecState} (h : PayKeep s s') : PayMono s s' := by
  intro o ho
  obtain ⟨p, hp⟩ := Option.isSome_iff_exists.mp ho
  rw [h o p hp]; rfl

theorem PayKeep.mat {s s2 : ExecState} (h : PayKeep s s2) {oid : Nat} (hn : s.payload oid = none)
    (res : Iterable) (ev : List Nat) :
    PayKeep s { s2 with payloads := (oid, res) :: s2.payloads, evals := ev } := by
  intro o p hp
  have hne : oid ≠ o := by intro he; subst he; rw [hn] at hp; cases hp
  exact (ExecState.payload_cons s2 oid res o).trans ((if_neg hne).trans (h o p hp))

theorem PayKeep.cons (s : ExecState) (oid : Nat) (it : Iterable) (ev : List Nat) (hn : s.payload oid = none) :
    PayKeep s { s with payloads := (oid, it) :: s.payloads, evals := ev } :=
  (PayKeep.refl s).mat hn it ev

/-- Payloads present in `s'` were present in `s` or sit on a Materialization of `r`. -/
def PayNew (r : Rel) (s s' : ExecState) : Prop :=
  ∀ o, (s'.payload o).isSome = true → (s.payload o).isSome = true ∨ o ∈ r.matOids

theorem PayNew.refl (r : Rel) (s : ExecState) : PayNew r s s := fun _ h => Or.inl h
theorem PayNew.of_payloads_eq {r : Rel} {s s1 s' : ExecState} (h : PayNew r s s1) (g : s'.payloads = s1.payloads) :
    PayNew r s s' :=
  fun o ho => h o (ExecState.payload_congr g o ▸ ho)
theorem PayNew.trans {r1 r2 r : Rel} {a b c : ExecState} (h1 : PayNew r1 a b) (h2 : PayNew r2 b c)
    (s1 : ∀ o, o ∈ r1.matOids → o ∈ r.matOids) (s2 : ∀ o, o ∈ r2.matOids → o ∈ r.matOids) : PayNew r a c :=
  fun o ho => (h2 o ho).elim (fun h => (h1 o h).imp id (s1 o)) (fun h => .inr (s2 o h))
theorem PayNew.sub {r1 r : Rel} {a b : ExecState} (h1 : PayNew r1 a b)
    (s1 : ∀ o, o ∈ r1.matOids → o ∈ r.matOids) : PayNew r a b :=
  fun o ho => (h1 o ho).imp id (s1 o)

theorem PayNew.none_of {t : Rel} {s s' : ExecState} (h : PayNew t s s') {o : Nat} (h0 : s.payload o = none)
    (hn : o ∉ t.matOids) : s'.payload o = none :=
  Option.not_isSome_iff_eq_none.mp fun hs => (h o hs).elim (Option.not_isSome_iff_eq_none.mpr h0) hn

theorem PayNew.mat {t : Rel} {s s2 : ExecState} (h : PayNew t s s2) (oid : Nat) (name : String)
    (res : Iterable) (ev : List Nat) :
    PayNew (.mat oid name t) s { s2 with payloads := (oid, res) :: s2.payloads, evals := ev } := by
  intro o ho
  by_cases he : oid = o
  · exact Or.inr (he ▸ List.mem_cons_self)
  · have h2 := (ExecState.payload_cons s2 oid res o).trans (if_neg he)
    exact (h o (h2 ▸ ho)).imp id (List.mem_cons_of_mem _)

theorem iterateS_eq_ok {σ : Leaves} {it : Iterable} {s : ExecState} {rows : List Row} {s' : ExecState} :
    iterateS σ it s = .ok (rows, s') ↔
      it.rows σ = .ok rows ∧ s' = { s with log := (it.events σ none).reverse ++ s.log } := by
  unfold iterateS iterate
  cases it.rows σ with
  | error e => exact ⟨nofun, fun h => nomatch h.1⟩
  | ok rs => exact ⟨fun h => by cases h; exact ⟨rfl, rfl⟩, fun ⟨h1, h2⟩ => by cases h1; cases h2; rfl⟩

theorem sliced_correct (σ : Leaves) (it : Iterable) (a : Nat) (b : Option Nat) (rows : List Row)
    (h : it.rows σ = .ok rows) :
    (sliced σ it a b).rows σ = .ok (sliceList a b rows) ∧ ItOK (sliced σ it a b) := by
  -- `sliced`: 1 a row sequence, 2 a leaf payload (both sliced at once), 3 anything else (a lazy `.slice`)
  fun_cases sliced σ it a b with
  | case1 | case2 => cases h; exact ⟨rfl, trivial⟩
  | case3 => exact ⟨by simp only [Iterable.rows, h, sliceEnum_zero], trivial⟩

/-- `to_mapping` hands a mapping on the same key back as it is, re-keys any other mapping without iterating, and
iterates everything else once. -/
theorem toMapping_frame {σ : Leaves} {it : Iterable} {key : Cols} {s : ExecState} {it' : Iterable}
    {s' : ExecState} (h : toMapping σ it key s = .ok (it', s')) :
    s'.payloads = s.payloads ∧ s'.evals = s.evals ∧ it'.isStored = true ∧
      (s'.log = s.log ∨ s'.log = (it.events σ none).reverse ++ s.log) := by
  revert h
  -- `toMapping`: 1 a mapping on this key, 2/3 a mapping on another key (`dictDedup` raises/returns), 4 anything else:
  -- `toMappingVia`: 1 iterating raises, 2/3 `dictDedup` raises/returns
  fun_cases toMapping σ it key s with
  | case1 | case3 => intro h; cases h; exact ⟨rfl, rfl, rfl, .inl rfl⟩
  | case2 => exact nofun
  | case4 it =>
    fun_cases toMappingVia σ it key s with
    | case1 | case2 => exact nofun
    | case3 rows s1 hi d =>
      intro h; cases h
      obtain ⟨_, rfl⟩ := iterateS_eq_ok.mp hi
      exact ⟨rfl, rfl, rfl, .inr rfl⟩

/-- `RowSequence`, `RowMapping` and a leaf's own payload (which is one of those): what `materialized()` hands back
as it is; no lazy wrapper is left in them. -/
def Iterable.isMaterialized : Iterable → Bool
  | .seq _ => true
  | .mapping _ _ => true
  | .leafRef _ => true
  | _ => false

/-- `materialized()` returns a row sequence, a row mapping or a leaf payload as it is, and iterates anything else
once. -/
theorem materializedIt_frame {σ : Leaves} {it : Iterable} {s : ExecState} {it' : Iterable}
    {s' : ExecState} (h : materializedIt σ it s = .ok (it', s')) :
    s'.payloads = s.payloads ∧ s'.evals = s.evals ∧ it'.isMaterialized = true ∧
      (s'.log = s.log ∨ s'.log = (it.events σ none).reverse ++ s.log) := by
  revert h
  -- `materializedIt`: 1 a row sequence, 2 a row mapping, 3 a leaf payload, 4 anything else: `materializeVia`:
  -- 1 iterating raises, 2 it returns
  fun_cases materializedIt σ it s with
  | case1 | case2 | case3 => intro h; cases h; exact ⟨rfl, rfl, rfl, .inl rfl⟩
  | case4 it =>
    fun_cases materializeVia σ it s with
    | case1 => exact nofun
    | case2 rows s1 hi =>
      intro h; cases h
      obtain ⟨_, rfl⟩ := iterateS_eq_ok.mp hi
      exact ⟨rfl, rfl, rfl, .inr rfl⟩

theorem materializedIt_correct (σ : Leaves) (it : Iterable) (s : ExecState) (rows : List Row)
    (hrows : it.rows σ = .ok rows) (hit : ItOK it) :
    ∃ it' s', materializedIt σ it s = .ok (it', s') ∧ it'.rows σ = .ok rows ∧ ItOK it' := by
  fun_cases materializedIt σ it s with
  | case1 | case2 | case3 => exact ⟨_, _, rfl, hrows, hit⟩
  | case4 it =>
    rw [materializeVia, iterateS_eq_ok.mpr ⟨hrows, rfl⟩]
    exact ⟨_, _, rfl, rfl, trivial⟩

/-- `to_mapping` on the executed target of a deduplication: re-keying cannot fail (`hd`), and a mapping on this key
already is deduplicated. -/
theorem toMapping_correct (σ : Leaves) (it : Iterable) (cols : Cols) (s : ExecState) (rows : List Row)
    (hrows : it.rows σ = .ok rows) (hit : ItOK it) (hc : RowsHaveCols rows cols)
    (hkd : rowsKeyDetermined cols rows = true) :
    ∃ it' s', toMapping σ it cols.keys s = .ok (it', s') ∧ it'.rows σ = .ok (firstOcc cols rows) ∧
      ItOK it' := by
  have hd := dictDedup_eq_firstOcc cols rows hc hkd
  have hpw := firstOcc_pairwise_keys cols rows hkd
  fun_cases toMapping σ it cols.keys s with
  | case1 k r hk =>
    cases hrows
    exact ⟨_, _, rfl, congrArg _ (firstOcc_of_mapping cols k rows hk hit).symm, hit⟩
  | case2 k r _ e he =>
    cases hrows
    cases hd.symm.trans he
  | case3 k r _ d he =>
    cases hrows
    cases hd.symm.trans he
    exact ⟨_, _, rfl, rfl, hpw⟩
  | case4 it =>
    rw [toMappingVia, iterateS_eq_ok.mpr ⟨hrows, rfl⟩]
    simp only [hd]
    exact ⟨_, _, rfl, rfl, hpw⟩

theorem mapM'_eq {α β : Type} (f : α → Except Err β) (g : α → β) (l : List α)
    (h : ∀ x, x ∈ l → f x = .ok (g x)) : mapM' f l = .ok (l.map g) := by
  induction l with
  | nil => rfl
  | cons x xs ih =>
    rw [mapM', h x List.mem_cons_self, ih fun y hy => h y (List.mem_cons_of_mem _ hy)]; rfl

theorem filterM'_eq {α : Type} (f : α → Except Err Bool) (p : α → Bool) (l : List α)
    (h : ∀ x, x ∈ l → f x = .ok (p x)) : filterM' f l = .ok (l.filter p) := by
  induction l with
  | nil => rfl
  | cons x xs ih =>
    rw [filterM', h x List.mem_cons_self, ih fun y hy => h y (List.mem_cons_of_mem _ hy), List.filter_cons]

theorem execOp_correct (σ : Leaves) (op : UOp) (tcols : Cols) (tr : Iterable) (s : ExecState)
    (rows : List Row) (hrows : tr.rows σ = .ok rows) (hit : ItOK tr)
    (hc : RowsHaveCols rows tcols) (hwf : op.wfOn tcols = true) (hid : op.isIdentity = false)
    (har : op.arityOk = true) (hkd : op = .dedup → rowsKeyDetermined tcols rows = true) :
    ∃ it s', execOp σ op (op.appliedColumns tcols) tr s = .ok (it, s') ∧
      it.rows σ = .ok (op.sem (op.appliedColumns tcols) rows) ∧ ItOK it := by
  -- every row has the columns the operation reads, so evaluating its expressions cannot fail
  have hreq : ∀ r, r ∈ rows → r.hasAll op.columnsRequired :=
    fun r hr t ht => (hc r hr t).mpr (Cols.mem_of_subset (Bool.and_eq_true_iff.mp hwf).1 ht)
  cases op with
  | identity => cases hid
  | «calc» tag e =>
    refine ⟨_, _, rfl, ?_, trivial⟩
    simp only [Iterable.rows, hrows, UOp.sem]
    exact mapM'_eq _ _ _ fun r hr => by rw [Expr.eval_eq_val r e har (hreq r hr)]
  | dedup => exact toMapping_correct σ tr tcols s rows hrows hit hc (hkd rfl)
  | proj c =>
    refine ⟨_, _, rfl, ?_, trivial⟩
    simp only [Iterable.rows, hrows, UOp.sem]
    exact if_pos (List.all_eq_true.mpr fun r hr => List.all_eq_true.mpr (hreq r hr))
  | sel p =>
    refine ⟨_, _, rfl, ?_, trivial⟩
    simp only [Iterable.rows, hrows, UOp.sem]
    exact filterM'_eq _ _ _ fun r hr => by rw [Pred.eval_eq_val r p har (hreq r hr)]
  | slice a b => exact ⟨_, _, rfl, sliced_correct σ tr a b rows hrows⟩
  | sort ts =>
    have hall : rows.all (fun row => ts.all (fun t => (t.expr.eval row).isSome)) = true := by
      simp only [List.all_eq_true]
      intro r hr t ht
      rw [Expr.eval_eq_val r t.expr (List.all_eq_true.mp har t ht)
        fun c hc => hreq r hr c ((mem_sortCols ts c).mpr ⟨t, ht, hc⟩)]
      rfl
    simp only [execOp, iterateS_eq_ok.mpr ⟨hrows, rfl⟩, hall, if_true]
    exact ⟨_, _, rfl, congrArg _ (multipassSort_eq ts rows), trivial⟩

theorem execOp_sort_frame {σ : Leaves} {ts : List SortTerm} {cols : Cols} {tr : Iterable} {s : ExecState}
    {it : Iterable} {s' : ExecState} (h : execOp σ (.sort ts) cols tr s = .ok (it, s')) :
    ∃ rows, it = .seq rows ∧ s' = { s with log := (tr.events σ none).reverse ++ s.log } := by
  simp only [execOp] at h
  split at h
  · cases h
  · next rows s1 hi =>
    obtain ⟨_, rfl⟩ := iterateS_eq_ok.mp hi
    split at h
    · cases h; exact ⟨_, rfl, rfl⟩
    · cases h

theorem execOp_frame {σ : Leaves} {op : UOp} {cols : Cols} {tr : Iterable} {s : ExecState}
    {it : Iterable} {s' : ExecState} (h : execOp σ op cols tr s = .ok (it, s')) :
    s'.payloads = s.payloads ∧ s'.evals = s.evals := by
  cases op with
  | identity => cases h
  | «calc» tag e | proj c | sel p | slice a b => cases h; exact ⟨rfl, rfl⟩
  | dedup =>
    have := toMapping_frame h
    exact ⟨this.1, this.2.1⟩
  | sort ts =>
    obtain ⟨_, _, rfl⟩ := execOp_sort_frame h
    exact ⟨rfl, rfl⟩

/-- What `exec` runs when no short-cut applies; not recursive: the recursive calls are calls of `exec`. -/
def execNode (σ : Leaves) (self : Engine) (r : Rel) (s : ExecState) : Except Err (Iterable × ExecState) :=
  match r with
  | .unary op t cols =>
    match exec σ self t s with
    | .error e => .error e
    | .ok (tr, s1) => execOp σ op cols tr s1
  | .binary .chain l rr _ =>
    match exec σ self l s with
    | .error e => .error e
    | .ok (a, s1) =>
      match exec σ self rr s1 with
      | .error e => .error e
      | .ok (b, s2) => .ok (.chain a b, s2)
  | .binary _ _ _ _ => .error .engine
  | .mat oid _ t =>
    match exec σ self t s with
    | .error e => .error e
    | .ok (inner, s1) =>
      match materializedIt σ inner s1 with
      | .error e => .error e
      | .ok (result, s2) =>
        .ok (result, { s2 with payloads := (oid, result) :: s2.payloads, evals := oid :: s2.evals })
  | .transfer _ _ t =>
    match t.engine.kind with
    | .iter => exec σ t.engine t s
    | .sql => .error .engine
  | .select _ _ _ _ _ _ _ _ t => exec σ self t s
  | .leaf .. => .error .assertion

theorem exec_eq (σ : Leaves) (self : Engine) (r : Rel) (s : ExecState) :
    exec σ self r s =
      if r.engine != self then .error .engine
      else if r.maxRows == some 0 then .ok (.seq [], s)
      else if r.isJoinIdentity then .ok (.seq [Row.empty], s)
      else match r.payloadIt s with
        | some p => .ok (p, s)
        | none => execNode σ self r s := by
  rw [exec.eq_def]
  cases r with
  | binary op l rr c => cases op <;> rfl
  | _ => rfl

theorem exec_ok_ind (σ : Leaves) {motive : Engine → Rel → ExecState → Iterable → ExecState → Prop}
    (short : ∀ {self r s it}, it = .seq [] ∨ it = .seq [Row.empty] ∨ r.payloadIt s = some it →
      motive self r s it s)
    (unary : ∀ {self s op t cols tr s1 it s'}, exec σ self t s = .ok (tr, s1) → motive self t s tr s1 →
      execOp σ op cols tr s1 = .ok (it, s') → motive self (.unary op t cols) s it s')
    (chain : ∀ {self s l rr cols a s1 b s2}, exec σ self l s = .ok (a, s1) → motive self l s a s1 →
      exec σ self rr s1 = .ok (b, s2) → motive self rr s1 b s2 →
      motive self (.binary .chain l rr cols) s (.chain a b) s2)
    (mat : ∀ {self s oid name t inner s1 res s2}, s.payload oid = none →
      exec σ self t s = .ok (inner, s1) → motive self t s inner s1 →
      materializedIt σ inner s1 = .ok (res, s2) →
      motive self (.mat oid name t) s res
        { s2 with payloads := (oid, res) :: s2.payloads, evals := oid :: s2.evals })
    (transfer : ∀ {self s oid d t it s'}, exec σ t.engine t s = .ok (it, s') →
      motive t.engine t s it s' → motive self (.transfer oid d t) s it s')
    (select : ∀ {self s oid so pr dd a b sk ic t it s'}, exec σ self t s = .ok (it, s') →
      motive self t s it s' → motive self (.select oid so pr dd a b sk ic t) s it s') :
    (r : Rel) → (self : Engine) → (s : ExecState) → (it : Iterable) → (s' : ExecState) →
      exec σ self r s = .ok (it, s') → motive self r s it s' := by
  intro r self s
  -- the 18 branches of `exec`: 10 fail, 3 are class-independent exits, 5 are node classes
  fun_induction exec σ self r s with
  | case1 | case5 | case7 | case8 | case10 | case11 | case12 | case13 | case16 | case18 =>
    intro it s' h; cases h
  | case2 => intro it s' h; cases h; exact short (.inl rfl)
  | case3 => intro it s' h; cases h; exact short (.inr (.inl rfl))
  | case4 self r s _ _ _ p hp => intro it s' h; cases h; exact short (.inr (.inr hp))
  | case6 self s op t cols tr s1 ht _ _ _ _ ih => exact fun it s' h => unary ht (ih _ _ ht) h
  | case9 self s l rr cols a s1 hl b s2 hr _ _ _ _ ihl ihr =>
    intro it s' h; cases h; exact chain hl (ihl _ _ hl) hr (ihr _ _ hr)
  | case14 self s oid name t inner s1 ht res s2 hm _ _ _ hp ih =>
    intro it s' h; cases h; exact mat hp ht (ih _ _ ht) hm
  | case15 self s oid d t hk _ _ _ _ ih => exact fun it s' h => transfer h (ih _ _ h)
  | case17 self s oid so pr dd a b sk ic t _ _ _ _ ih => exact fun it s' h => select h (ih _ _ h)

/-- Needs nothing of the tree, not even `Rel.Acyclic`, which `exec_frame` (`Payload.lean`) asks for. -/
theorem exec_pay (σ : Leaves) (r : Rel) (self : Engine) (s : ExecState) (it : Iterable) (s' : ExecState)
    (h : exec σ self r s = .ok (it, s')) : PayKeep s s' ∧ PayNew r s s' :=
  exec_ok_ind σ (motive := fun _ r s _ s' => PayKeep s s' ∧ PayNew r s s')
    (short := fun _ => ⟨.refl _, .refl _ _⟩)
    (unary := fun _ ih hop =>
      have g := (execOp_frame hop).1
      ⟨ih.1.trans (.of_payloads_eq g), ih.2.of_payloads_eq g⟩)
    (chain := fun _ ihl _ ihr =>
      ⟨ihl.1.trans ihr.1, ihl.2.trans ihr.2 (fun _ => List.mem_append_left _) (fun _ => List.mem_append_right _)⟩)
    (mat := fun hnone _ ih hm =>
      have g := (materializedIt_frame hm).1
      ⟨(ih.1.trans (.of_payloads_eq g)).mat hnone _ _, (ih.2.of_payloads_eq g).mat _ _ _ _⟩)
    (transfer := fun _ ih => ih) (select := fun _ ih => ih)
    r self s it s' h

/-- Like `Rel.IterOK`, but a Transfer or Materialization that holds a payload in the store may have any target
(`execute` returns the cached rows and never looks below such a node): the trees the Processor hands to `execute`
hold processed Transfers out of another engine family. -/
def Rel.IterOKs (s : ExecState) : Rel → Prop
  | .leaf _ _ _ _ _ _ p _ => p = true
  | .unary op t _ => Rel.IterOKs s t ∧ op.isIdentity = false ∧ op.arityOk = true
  | .binary op l r _ =>
    Rel.IterOKs s l ∧ Rel.IterOKs s r ∧ l.engine = r.engine ∧
      (match op with
       | .chain => True
       | _ => False)
  | .mat oid _ t => (s.payload oid).isSome = true ∨ Rel.IterOKs s t
  | .transfer oid _ t => (s.payload oid).isSome = true ∨ (Rel.IterOKs s t ∧ t.engine.kind = .iter)
  | .select _ _ _ _ _ _ _ _ t => Rel.IterOKs s t

theorem Rel.IterOKs.mono {s s' : ExecState} (hm : PayMono s s') : (r : Rel) → r.IterOKs s → r.IterOKs s' := by
  intro r
  induction r with
  | leaf => exact id
  | unary _ t _ ih => exact And.imp_left ih
  | binary _ l r _ ihl ihr => exact fun h => ⟨ihl h.1, ihr h.2.1, h.2.2⟩
  | mat oid _ t ih => exact Or.imp (hm oid) ih
  | transfer oid _ t ih => exact Or.imp (hm oid) (And.imp_left ih)
  | select _ _ _ _ _ _ _ _ t _ ih => exact ih

theorem Rel.IterOKs.of_iterOK (s : ExecState) : (r : Rel) → r.IterOK → r.IterOKs s := by
  intro r
  induction r with
  | leaf => exact id
  | unary _ t _ ih => exact And.imp_left ih
  | binary _ l r _ ihl ihr => exact fun h => ⟨ihl h.1, ihr h.2.1, h.2.2⟩
  | mat _ _ t ih => exact fun h => .inr (ih h)
  | transfer _ _ t ih => exact fun h => .inr ⟨ih h.1, h.2⟩
  | select _ _ _ _ _ _ _ _ t _ ih => exact ih

/-- What `execute` must deliver for the relation `r`. -/
def ExecGood (σ : Leaves) (reg : Nat → Option (List Row)) (r : Rel)
    (x : Except Err (Iterable × ExecState)) : Prop :=
  ∃ it s', x = .ok (it, s') ∧ it.rows σ = .ok (sem σ r) ∧ ItOK it ∧ StoreOK σ reg s'

theorem payloadIt_correct (σ : Leaves) (reg : Nat → Option (List Row)) (r : Rel) (s : ExecState)
    (hreg : r.RegOK σ reg) (hs : StoreOK σ reg s) (p : Iterable) (hp : r.payloadIt s = some p) :
    p.rows σ = .ok (sem σ r) ∧ ItOK p := by
  cases r with
  | leaf oid eng cols name mn mx pl msgs =>
    cases pl with
    | true => cases hp; exact ⟨rfl, trivial⟩
    | false => cases hp
  | unary | binary => cases hp
  | mat oid | transfer oid | select oid =>
    -- a marker: the store holds the rows registered for it, and those are the rows of its target
    obtain ⟨hi, rows, hr, hrows⟩ := hs oid p hp
    cases hreg.1.symm.trans hr
    exact ⟨hrows, hi⟩

/-- The part of `execute` that does not depend on the node class: engine check, the two
metadata short-cuts (sound by C06) and the cached payload. -/
theorem exec_shortcuts (σ : Leaves) (reg : Nat → Option (List Row)) (r : Rel) (self : Engine)
    (s : ExecState) (he : r.engine = self) (hwf : r.WF) (htr : r.Truthful σ)
    (hreg : r.RegOK σ reg) (hs : StoreOK σ reg s)
    (hnode : r.payloadIt s = none → ExecGood σ reg r (execNode σ self r s)) :
    ExecGood σ reg r (exec σ self r s) := by
  rw [exec_eq, if_neg (by simp [he])]
  split
  · next h0 =>
    exact ⟨_, _, rfl, congrArg _ (maxRows_zero_sound σ r hwf htr (beq_iff_eq.mp h0)).symm, trivial, hs⟩
  split
  · next hj => exact ⟨_, _, rfl, congrArg _ (joinIdentity_sound σ r hwf htr hj).symm, trivial, hs⟩
  split
  · next p hp =>
    obtain ⟨h2, h3⟩ := payloadIt_correct σ reg r s hreg hs p hp
    exact ⟨_, _, rfl, h2, h3, hs⟩
  · next hp => exact hnode hp

theorem exec_correctS (σ : Leaves) (reg : Nat → Option (List Row)) :
    (r : Rel) → (self : Engine) → (s : ExecState) →
    r.IterOKs s → r.WF → r.Truthful σ → keyDetermined σ r = true → r.RegOK σ reg → StoreOK σ reg s →
    r.engine = self → ExecGood σ reg r (exec σ self r s) := by
  intro r self s hio hwf htr hkd hreg hs he
  -- `induction … with tac | …` runs `tac` in front of every alternative: in every node class the class-independent
  -- exits go first, which leaves `hp`: no payload is cached at the node
  induction r generalizing self s with
    refine exec_shortcuts σ reg _ self s he hwf htr hreg hs fun hp => ?_
  | leaf oid eng cols name mn mx pl msgs =>
    obtain rfl : pl = true := hio
    cases hp
  | unary op t cols ih =>
    simp only [keyDetermined, Bool.and_eq_true] at hkd
    obtain ⟨it, s1, h1, h2, h3, h4⟩ := ih self s hio.1 hwf.1 htr hkd.1 hreg hs he
    obtain ⟨hc, hop⟩ := hwf.2
    subst hc
    obtain ⟨it', s', g1, g2, g3⟩ := execOp_correct σ op t.columns it s1 (sem σ t) h2 h3
      (metadata_truthful σ t hwf.1 htr).keys hop hio.2.1 hio.2.2 (fun h => by subst h; exact hkd.2)
    exact ⟨it', s', by simp only [execNode, h1, g1], g2, g3,
      h4.of_payloads_eq (execOp_frame g1).1⟩
  | binary op l rr cols ihl ihr =>
    obtain ⟨hl, hr, heng, hop⟩ := hio
    cases op with
    | join | ignoreOne => cases hop
    | chain =>
      simp only [keyDetermined, Bool.and_eq_true] at hkd
      obtain ⟨a, s1, h1, h2, _, h4⟩ := ihl self s hl hwf.1 htr.1 hkd.1 hreg.1 hs he
      -- the left run lost no payload, so the right operand is still executable in the state it left
      obtain ⟨b, s2, g1, g2, _, g4⟩ := ihr self s1 (hr.mono (exec_pay σ l self s a s1 h1).1.mono rr)
        hwf.2.1 htr.2 hkd.2 hreg.2 h4 (heng ▸ he)
      refine ⟨.chain a b, s2, ?_, ?_, trivial, g4⟩
      · simp only [execNode, h1, g1]
      · simp only [Iterable.rows, h2, g2, sem]
  | mat oid name t ih =>
    have hio : Rel.IterOKs s t := hio.resolve_left (Option.not_isSome_iff_eq_none.mpr hp)
    obtain ⟨it, s1, h1, h2, h3, h4⟩ := ih self s hio hwf htr hkd hreg.2 hs he
    obtain ⟨it', s2, g1, g2, g3⟩ := materializedIt_correct σ it s1 (sem σ t) h2 h3
    refine ⟨it', { s2 with payloads := (oid, it') :: s2.payloads, evals := oid :: s2.evals }, ?_, g2, g3, ?_⟩
    · simp only [execNode, h1, g1]
    · exact (h4.of_payloads_eq (materializedIt_frame g1).1).cons oid it' (sem σ t) g3 hreg.1 g2
  | transfer oid d t ih =>
    have hio := hio.resolve_left (Option.not_isSome_iff_eq_none.mpr hp)
    obtain ⟨it, s1, h1, h2, h3, h4⟩ := ih t.engine s hio.1 hwf htr hkd hreg.2 hs rfl
    exact ⟨it, s1, by simp only [execNode, hio.2, h1], h2, h3, h4⟩
  | select oid so pr dd s1 s2 sk ic t _ ih => exact ih self s hio hwf htr hkd hreg.2 hs he

/-- What `execute` delivers, plus: no payload is lost, new ones sit on Materializations of the tree. -/
def ExecGoodM (σ : Leaves) (reg : Nat → Option (List Row)) (r : Rel) (s : ExecState)
    (x : Except Err (Iterable × ExecState)) : Prop :=
  ∃ it s', x = .ok (it, s') ∧ it.rows σ = .ok (sem σ r) ∧ ItOK it ∧ StoreOK σ reg s' ∧ PayMono s s' ∧ PayNew r s s'

theorem exec_correctM (σ : Leaves) (reg : Nat → Option (List Row)) :
    (r : Rel) → (self : Engine) → (s : ExecState) →
    r.IterOKs s → r.WF → r.Truthful σ → keyDetermined σ r = true → r.RegOK σ reg → StoreOK σ reg s →
    r.engine = self → ExecGoodM σ reg r s (exec σ self r s) :=
  fun r self s hio hwf htr hkd hreg hs he =>
    let ⟨it, s', h1, h2, h3, h4⟩ := exec_correctS σ reg r self s hio hwf htr hkd hreg hs he
    let ⟨k, n⟩ := exec_pay σ r self s it s' h1
    ⟨it, s', h1, h2, h3, h4, k.mono, n⟩

/-- C01 at tree level (`Props/C01.lean` says what it claims); `IterOK` is what the iteration engine is documented to
execute. -/
theorem exec_correct (σ : Leaves) (reg : Nat → Option (List Row)) :
    (r : Rel) → (self : Engine) → (s : ExecState) →
    r.IterOK → r.WF → r.Truthful σ → keyDetermined σ r = true → r.RegOK σ reg → StoreOK σ reg s →
    r.engine = self → ExecGood σ reg r (exec σ self r s) :=
  fun r self s hio hwf htr hkd hreg hs he =>
    exec_correctS σ reg r self s (Rel.IterOKs.of_iterOK s r hio) hwf htr hkd hreg hs he

def regOf (m : List (Nat × List Row)) : Nat → Option (List Row) :=
  fun o => (m.find? (fun p => p.1 == o)).map (·.2)

theorem regOf_mem (m : List (Nat × List Row))
    (hc : ∀ p q, p ∈ m → q ∈ m → p.1 = q.1 → p.2 = q.2) (p : Nat × List Row) (hp : p ∈ m) :
    regOf m p.1 = some p.2 := by
  unfold regOf
  cases hf : m.find? (fun q => q.1 == p.1) with
  | none => exact absurd (beq_self_eq_true p.1) (List.find?_eq_none.mp hf p hp)
  | some q =>
    have hq : q.1 = p.1 := by simpa using List.find?_some hf
    exact congrArg some (hc q p (List.mem_of_find?_eq_some hf) hp hq)

theorem RegOK_of_markers (σ : Leaves) (reg : Nat → Option (List Row)) (r : Rel)
    (h : ∀ p, p ∈ r.markers σ → reg p.1 = some p.2) : r.RegOK σ reg := by
  induction r with
  | leaf => trivial
  | unary _ t _ ih => exact ih h
  | binary _ l r _ ihl ihr =>
    exact ⟨ihl fun p hp => h p (List.mem_append_left _ hp), ihr fun p hp => h p (List.mem_append_right _ hp)⟩
  | mat oid _ t ih | transfer oid _ t ih | select oid _ _ _ _ _ _ _ t _ ih =>
    exact ⟨h (oid, sem σ t) List.mem_cons_self, ih fun p hp => h p (List.mem_cons_of_mem _ hp)⟩

theorem RegOK_of_consistent (σ : Leaves) (r : Rel) (h : r.MarkersConsistent σ) :
    r.RegOK σ (regOf (r.markers σ)) :=
  RegOK_of_markers σ _ r (fun p hp => regOf_mem _ h p hp)

end DafRel
