/-
What a `sql.Payload` means in the SQL evaluation model (`PaySem`): the environments of its FROM clause that
pass its WHERE terms, mapped through `columns_available`, are exactly the rows of the relation it was
made for.  Proved for each case of `to_payload`: calculation, selection, a single named source (subquery, table,
doomed table), join.
-/
import DafRel.Spec.SqlCompile
import DafRel.Lemmas.SqlEnv
import DafRel.Lemmas.SqlConv
import DafRel.Lemmas.Expr
import DafRel.Lemmas.WF
import DafRel.Lemmas.Trivial
import DafRel.Lemmas.Apply
import DafRel.Lemmas.Dedup

namespace DafRel

theorem rowOf_availOK (avail : List (Tag × SqlExpr)) (env : PEnv) : AvailOK avail env (rowOf avail env) := by
  intro t x h
  simp [rowOf, h]

theorem PaySem.rowHasCols {tables : List (List Row)} {p : SqlPayload} {rows : List Row} {cols : Cols}
    (P : PaySem tables p rows cols) (hr : RowsHaveCols rows cols) {env : PEnv} (he : env ∈ payEnvs tables p) :
    RowHasCols (rowOf p.avail env) cols :=
  hr _ (by rw [P.rows_eq]; exact List.mem_map_of_mem he)

theorem PaySem.hasAll {tables : List (List Row)} {p : SqlPayload} {rows : List Row} {cols : Cols}
    (P : PaySem tables p rows cols) (hr : RowsHaveCols rows cols) {env : PEnv} (he : env ∈ payEnvs tables p)
    {c : Cols} (hc : c.subset cols = true) : (rowOf p.avail env).hasAll c :=
  fun _ ht => (P.rowHasCols hr he _).mpr (Cols.mem_of_subset hc ht)

theorem PaySem.srcs_of_avail {tables : List (List Row)} {p : SqlPayload} {rows : List Row} {cols : Cols}
    (P : PaySem tables p rows cols) {s : String} (h : availSrc p.avail s) : s ∈ From.names p.frm :=
  let ⟨t, y, hl, hs⟩ := h
  P.availSrcs t y hl s hs

theorem SqlPred.evalAll_eq_all (env : PEnv) (ps : List SqlPred) :
    SqlPred.evalAll env ps = ps.all (SqlPred.eval env) := by
  induction ps with
  | nil => rfl
  | cons p ps ih => rw [SqlPred.evalAll, ih, List.all_cons]

theorem SqlPred.evalAll_append (env : PEnv) (ps qs : List SqlPred) :
    SqlPred.evalAll env (ps ++ qs) = (SqlPred.evalAll env ps && SqlPred.evalAll env qs) := by
  simp only [SqlPred.evalAll_eq_all, List.all_append]

theorem SqlPred.srcsList_append (ps qs : List SqlPred) :
    SqlPred.srcsList (ps ++ qs) = SqlPred.srcsList ps ++ SqlPred.srcsList qs := by
  induction ps with
  | nil => rfl
  | cons p ps ih => simp [SqlPred.srcsList, ih]

theorem PayDom.isSome_of_subset {p : SqlPayload} {cols c : Cols} (P : PayDom p cols) (hc : c.subset cols = true) :
    ∀ t, t ∈ c → (SqlPayload.lookup p.avail t).isSome = true :=
  fun t ht => (P t).mpr (Cols.mem_of_subset hc ht)

theorem payDom_calc (p : SqlPayload) (cols : Cols) (tag : Tag) (x : SqlExpr) (h : PayDom p cols) :
    PayDom { p with avail := availSet p.avail tag x } (cols.insert tag) := by
  intro t
  show (SqlPayload.lookup (availSet p.avail tag x) t).isSome = true ↔ _
  rw [SqlPayload.lookup_availSet, Cols.mem_insert]
  by_cases ht : t = tag
  · simp [ht]
  · simp only [ht, if_false, or_false]; exact h t

/-- Calculation: one more entry in `columns_available`. -/
theorem paySem_calc (tables : List (List Row)) (p : SqlPayload) (rows : List Row) (cols : Cols) (tag : Tag)
    (e : Expr) (x : SqlExpr) (P : PaySem tables p rows cols) (hr : RowsHaveCols rows cols)
    (he : e.columnsRequired.subset cols = true) (ha : e.arityOk = true) (hx : convExpr p.avail e = .ok x) :
    PaySem tables { p with avail := availSet p.avail tag x } (rows.map (fun r => r.set tag (e.val r)))
      (cols.insert tag) := by
  refine ⟨?_, ?_, ?_, P.whSrcs⟩
  · rw [P.rows_eq, List.map_map]
    apply List.map_congr_left
    intro env henv
    have hval : x.eval env = some (e.val (rowOf p.avail env)) :=
      convExpr_eval_val (rowOf_availOK p.avail env) hx ha (P.hasAll hr henv he)
    funext t
    simp only [Function.comp, rowOf, SqlPayload.lookup_availSet, Row.set]
    by_cases ht : t = tag
    · simp only [ht, if_true]; exact hval.symm
    · simp only [ht, if_false]
  · exact payDom_calc p cols tag x P.dom
  · intro t y hl s hs
    rw [SqlPayload.lookup_availSet] at hl
    split at hl
    · cases hl
      exact P.srcs_of_avail (convExpr_srcs p.avail e x hx s hs)
    · exact P.availSrcs t y hl s hs

/-- Selection: more WHERE terms. -/
theorem paySem_sel (tables : List (List Row)) (p : SqlPayload) (rows : List Row) (cols : Cols) (pr : Pred)
    (ws : List SqlPred) (P : PaySem tables p rows cols) (hr : RowsHaveCols rows cols)
    (hp : pr.columnsRequired.subset cols = true) (ha : pr.arityOk = true)
    (hw : convFlattened p.avail pr = .ok ws) :
    PaySem tables { p with wh := p.wh ++ ws } (rows.filter (fun r => pr.val r)) cols := by
  refine ⟨?_, P.dom, P.availSrcs, ?_⟩
  · rw [P.rows_eq, List.filter_map]
    congr 1
    unfold payEnvs
    rw [List.filter_filter]
    apply List.filter_congr
    intro env henv
    simp only [SqlPred.evalAll_append, Function.comp]
    by_cases hwh : SqlPred.evalAll env p.wh = true
    · rw [convFlattened_sound p.avail env _ (rowOf_availOK p.avail env) pr ws ha
        (P.hasAll hr (List.mem_filter.mpr ⟨henv, hwh⟩) hp) hw]
      simp [hwh]
    · simp [hwh]
  · intro s hs
    rw [SqlPred.srcsList_append, List.mem_append] at hs
    exact hs.elim (P.whSrcs s) fun hs => P.srcs_of_avail (convFlattened_srcs p.avail pr ws hw s hs)

theorem payDom_source {avail : List (Tag × SqlExpr)} {cols : Cols} {name : String}
    (hav : ∀ t, SqlPayload.lookup avail t = if t ∈ cols then some (SqlExpr.col name t) else none)
    (frm : From) (wh : List SqlPred) : PayDom { frm := frm, wh := wh, avail := avail } cols := by
  intro t
  show (SqlPayload.lookup avail t).isSome = true ↔ _
  rw [hav]; by_cases ht : t ∈ cols <;> simp [ht]

/-- What a table, a doomed table and a subquery have in common: one named source whose environments are its rows,
each column available under its own name, WHERE terms that mention no source. -/
theorem paySem_source (tables : List (List Row)) (frm : From) (name : String) (avail : List (Tag × SqlExpr))
    (wh : List SqlPred) (all rows : List Row) (cols : Cols)
    (henv : (From.envs tables frm).1 = all.map (rowEnv name)) (hname : From.names frm = [name])
    (hav : ∀ t, SqlPayload.lookup avail t = if t ∈ cols then some (SqlExpr.col name t) else none)
    (hwh : SqlPred.srcsList wh = [])
    (hrows : all.filter (fun r => SqlPred.evalAll (rowEnv name r) wh) = rows)
    (hr : RowsHaveCols rows cols) : PaySem tables { frm := frm, wh := wh, avail := avail } rows cols := by
  refine ⟨?_, ?_, ?_, ?_⟩
  · simp only [payEnvs, henv, List.filter_map, List.map_map]
    rw [show (fun e => SqlPred.evalAll e wh) ∘ rowEnv name = fun r => SqlPred.evalAll (rowEnv name r) wh from rfl, hrows]
    refine (List.map_id rows).symm.trans (List.map_congr_left fun r hrm => ?_)
    funext t
    simp only [Function.comp, rowOf, hav, id]
    by_cases ht : t ∈ cols
    · simp [ht, SqlExpr.eval, rowEnv]
    · simp only [ht, if_false]
      exact Option.not_isSome_iff_eq_none.mp (fun h => ht ((hr r hrm t).mp h))
  · exact payDom_source hav frm wh
  · intro t y hl s hs
    rw [hav] at hl
    split at hl
    · cases hl; simpa [SqlExpr.srcs, hname] using hs
    · cases hl
  · intro s hs; rw [hwh] at hs; cases hs

/-- A subquery: the rows of the inner query under a fresh alias. -/
theorem paySem_subquery (tables : List (List Row)) (alias : String) (q : Query) (rows : List Row) (cols : Cols)
    (hq : (Query.eval tables q).rows = rows) (hr : RowsHaveCols rows cols) :
    PaySem tables { frm := .subquery alias q, avail := subAvail alias cols } rows cols :=
  paySem_source tables _ alias _ [] rows rows cols (by simp only [From.envs, hq]) rfl
    (SqlPayload.lookup_subAvail alias cols) rfl (List.filter_eq_self.mpr fun _ _ => rfl) hr

theorem tablePayload_paySem (tables : List (List Row)) (name : String) (uid idx : Nat) (cols : Cols)
    (rows : List Row) (htab : tables.getD idx [] = rows) (hr : RowsHaveCols rows cols) :
    PaySem tables (tablePayload name uid idx cols) rows cols :=
  paySem_source tables _ name _ [] rows rows cols (congrArg (List.map (rowEnv name)) htab) rfl
    (SqlPayload.lookup_map_mk _ cols) rfl (List.filter_eq_self.mpr fun _ _ => rfl) hr

/-- `get_doomed_payload`: `WHERE false` (in the library over a one-row subquery of NULLs, here over any table). -/
theorem doomedPayload_paySem (tables : List (List Row)) (name : String) (uid idx : Nat) (cols : Cols) :
    PaySem tables (tablePayload name uid idx cols [.lit false]) [] cols :=
  paySem_source tables _ name _ [.lit false] (tables.getD idx []) [] cols rfl rfl
    (SqlPayload.lookup_map_mk _ cols) rfl (List.filter_eq_nil_iff.mpr fun _ _ h => nomatch h) (fun _ h => nomatch h)

theorem rowOf_congr (avail : List (Tag × SqlExpr)) (names : List String)
    (hs : ∀ t x, SqlPayload.lookup avail t = some x → ∀ s, s ∈ x.srcs → s ∈ names) {e1 e2 : PEnv}
    (h : e1.agreeOn e2 names) : rowOf avail e1 = rowOf avail e2 := by
  funext t
  simp only [rowOf]
  cases hl : SqlPayload.lookup avail t with
  | none => rfl
  | some x => exact SqlExpr.eval_congr _ _ x (fun s hx => h s (hs t x hl s hx))

/-- In one environment, the merged `columns_available` gives the merged row, provided the right part is
NULL-free (a NULL there would let the left value show through in the row, not in the lookup). -/
theorem rowOf_availMerge (la ra : List (Tag × SqlExpr)) (env : PEnv)
    (h : ∀ t, (SqlPayload.lookup ra t).isSome = true → (rowOf ra env t).isSome = true) :
    rowOf (availMerge la ra) env = (rowOf la env).merge (rowOf ra env) := by
  funext t
  have := h t
  simp only [rowOf, SqlPayload.lookup_availMerge, Row.merge] at this ⊢
  cases hr : SqlPayload.lookup ra t with
  | none => simp
  | some y =>
    simp only [hr, Option.isSome_some, forall_const] at this
    obtain ⟨v, hv⟩ := Option.isSome_iff_exists.mp this
    simp [hv]

theorem onCommon_evalAll (la ra : List (Tag × SqlExpr)) (env : PEnv) (common : Cols) (oc : List SqlPred)
    (hoc : common.mapM (onCommonTerm la ra) = some oc)
    (hl : (rowOf la env).hasAll common) (hr : (rowOf ra env).hasAll common) :
    SqlPred.evalAll env oc = (rowOf la env).agree (rowOf ra env) common := by
  -- the ON terms evaluate, term by term, to `rowOf la env t == rowOf ra env t`; take `all` of both lists
  have := congrArg (List.all · id) (mapM_option_map (SqlPred.eval env) (fun t => rowOf la env t == rowOf ra env t)
    common oc hoc (fun t ht q hq => by
      have h1 := hl t ht
      have h2 := hr t ht
      simp only [onCommonTerm, rowOf] at hq h1 h2 ⊢
      split at hq
      · rename_i x y hx hy
        cases hq
        simp only [hx, hy] at h1 h2 ⊢
        obtain ⟨va, hva⟩ := Option.isSome_iff_exists.mp h1
        obtain ⟨vb, hvb⟩ := Option.isSome_iff_exists.mp h2
        by_cases hvv : va = vb <;> simp [SqlPred.eval, SqlExpr.evalList, hva, hvb, PFn.apply, hvv]
      · cases hq))
  simpa [List.all_map, SqlPred.evalAll_eq_all, Row.agree, Function.comp_def] using this

section Join
variable {tables : List (List Row)} {pl pr : SqlPayload} {L R : List Row} {lc rc : Cols} {a b : PEnv}

theorem rowOf_merge_left (Pl : PaySem tables pl L lc) (hd : ∀ s, s ∈ From.names pl.frm → s ∉ From.names pr.frm)
    (ha : a ∈ (From.envs tables pl.frm).1) (hb : b ∈ (From.envs tables pr.frm).1) :
    rowOf pl.avail (a.merge b) = rowOf pl.avail a :=
  rowOf_congr _ _ Pl.availSrcs (merge_agree_left (envs_local _ _ _ ha) (envs_local _ _ _ hb) hd)

theorem rowOf_merge_right (Pr : PaySem tables pr R rc) (hd : ∀ s, s ∈ From.names pl.frm → s ∉ From.names pr.frm)
    (ha : a ∈ (From.envs tables pl.frm).1) (hb : b ∈ (From.envs tables pr.frm).1) :
    rowOf pr.avail (a.merge b) = rowOf pr.avail b :=
  rowOf_congr _ _ Pr.availSrcs (merge_agree_right (envs_local _ _ _ ha) (envs_local _ _ _ hb) hd)

theorem wh_merge (Pl : PaySem tables pl L lc) (Pr : PaySem tables pr R rc)
    (hd : ∀ s, s ∈ From.names pl.frm → s ∉ From.names pr.frm)
    (ha : a ∈ (From.envs tables pl.frm).1) (hb : b ∈ (From.envs tables pr.frm).1) :
    SqlPred.evalAll (a.merge b) (pl.wh ++ pr.wh) = (SqlPred.evalAll a pl.wh && SqlPred.evalAll b pr.wh) := by
  have la := envs_local tables pl.frm a ha
  have lb := envs_local tables pr.frm b hb
  rw [SqlPred.evalAll_append,
    SqlPred.evalAll_congr _ a pl.wh (fun s hs => merge_agree_left la lb hd s (Pl.whSrcs s hs)),
    SqlPred.evalAll_congr _ b pr.wh (fun s hs => merge_agree_right la lb hd s (Pr.whSrcs s hs))]

theorem rowOf_availMerge_merge (Pl : PaySem tables pl L lc) (Pr : PaySem tables pr R rc)
    (hd : ∀ s, s ∈ From.names pl.frm → s ∉ From.names pr.frm)
    (ha : a ∈ (From.envs tables pl.frm).1) (hb : b ∈ (From.envs tables pr.frm).1)
    (hR : RowsHaveCols R rc) (hwb : SqlPred.evalAll b pr.wh = true) :
    rowOf (availMerge pl.avail pr.avail) (a.merge b) = (rowOf pl.avail a).merge (rowOf pr.avail b) := by
  rw [rowOf_availMerge, rowOf_merge_left Pl hd ha hb, rowOf_merge_right Pr hd ha hb]
  intro t ht
  rw [rowOf_merge_right Pr hd ha hb]
  exact (Pr.rowHasCols hR (List.mem_filter.mpr ⟨hb, hwb⟩) t).mpr ((Pr.dom t).mp ht)

theorem on_merge (Pl : PaySem tables pl L lc) (Pr : PaySem tables pr R rc)
    (hd : ∀ s, s ∈ From.names pl.frm → s ∉ From.names pr.frm)
    (ha : a ∈ (From.envs tables pl.frm).1) (hb : b ∈ (From.envs tables pr.frm).1)
    (hL : RowsHaveCols L lc) (hR : RowsHaveCols R rc)
    (hwa : SqlPred.evalAll a pl.wh = true) (hwb : SqlPred.evalAll b pr.wh = true)
    {common : Cols} (hcl : ∀ t, t ∈ common → t ∈ lc) (hcr : ∀ t, t ∈ common → t ∈ rc)
    {oc : List SqlPred} (hoc : common.mapM (onCommonTerm pl.avail pr.avail) = some oc)
    {pred : Pred} (hpa : pred.arityOk = true) (hpc : pred.columnsRequired.subset (lc.union rc) = true)
    {ex : List SqlPred} (hex : joinExtra (availMerge pl.avail pr.avail) pred = .ok ex) :
    SqlPred.evalAll (a.merge b) (oc ++ ex) =
      ((rowOf pl.avail a).agree (rowOf pr.avail b) common &&
        pred.val ((rowOf pl.avail a).merge (rowOf pr.avail b))) := by
  have hl := rowOf_merge_left Pl hd ha hb
  have hr := rowOf_merge_right Pr hd ha hb
  have hcL := Pl.rowHasCols hL (List.mem_filter.mpr ⟨ha, hwa⟩)
  have hcR := Pr.rowHasCols hR (List.mem_filter.mpr ⟨hb, hwb⟩)
  rw [SqlPred.evalAll_append, onCommon_evalAll _ _ _ common oc hoc, hl, hr]
  · congr 1
    unfold joinExtra at hex
    split at hex
    · rename_i htriv
      cases hex
      exact (Pred.asTrivial_val _ pred true (by simpa using htriv)).symm
    · refine convFlattened_sound _ _ _ (rowOf_availMerge_merge Pl Pr hd ha hb hR hwb ▸ rowOf_availOK _ _) pred ex hpa ?_
        hex
      exact fun t ht => ((hcL.merge hcR) t).mpr (Cols.mem_of_subset hpc ht)
  · rw [hl]; exact fun t ht => (hcL t).mpr (hcl t ht)
  · rw [hr]; exact fun t ht => (hcR t).mpr (hcr t ht)

end Join

theorem payDom_merge (pl pr : SqlPayload) (lc rc : Cols) (frm : From) (wh : List SqlPred)
    (hl : PayDom pl lc) (hr : PayDom pr rc) :
    PayDom { frm := frm, wh := wh, avail := availMerge pl.avail pr.avail } (lc.union rc) := by
  intro t
  show (SqlPayload.lookup (availMerge pl.avail pr.avail) t).isSome = true ↔ _
  rw [SqlPayload.lookup_availMerge, Option.isSome_or, Bool.or_eq_true, hl t, hr t, Cols.mem_union, or_comm]

/-- Join: `FROM l JOIN r ON ..` over disjoint names, both WHERE lists, the merged `columns_available`. -/
theorem paySem_join (tables : List (List Row)) (pl pr : SqlPayload) (L R : List Row) (lc rc : Cols)
    (Pl : PaySem tables pl L lc) (Pr : PaySem tables pr R rc) (hL : RowsHaveCols L lc) (hR : RowsHaveCols R rc)
    (hd : ∀ s, s ∈ From.names pl.frm → s ∉ From.names pr.frm)
    (common : Cols) (hcl : ∀ t, t ∈ common → t ∈ lc) (hcr : ∀ t, t ∈ common → t ∈ rc)
    (oc : List SqlPred)
    (hoc : common.mapM (onCommonTerm pl.avail pr.avail) = some oc)
    (pred : Pred) (hpa : pred.arityOk = true) (hpc : pred.columnsRequired.subset (lc.union rc) = true)
    (ex : List SqlPred)
    (hex : joinExtra (availMerge pl.avail pr.avail) pred = .ok ex) :
    PaySem tables { frm := .join pl.frm pr.frm (oc ++ ex), wh := pl.wh ++ pr.wh,
                    avail := availMerge pl.avail pr.avail }
      (joinRows common pred L R) (lc.union rc) := by
  refine ⟨?_, ?_, ?_, ?_⟩
  · -- rows: push the outer filter and map into the per-`a` blocks, then compare block by block
    rw [Pl.rows_eq, Pr.rows_eq]
    simp only [payEnvs, joinRows, From.envs]
    rw [List.flatMap_map, flatMap_filter_if, List.filter_flatMap, List.map_flatMap]
    refine flatMap_congr_mem fun a ha0 => ?_
    simp only [List.filter_map, List.filter_filter, List.map_map]
    have hwh := fun b hb0 => wh_merge Pl Pr hd (a := a) (b := b) ha0 hb0
    split
    · rename_i hwa
      refine map_filter_congr (fun b hb0 => ?_) (fun b hb0 hb1 => ?_)
      · simp only [Function.comp, hwh b hb0, hwa, Bool.true_and]
        cases hwb : SqlPred.evalAll b pr.wh with
        | false => simp
        | true => rw [on_merge Pl Pr hd ha0 hb0 hL hR hwa hwb hcl hcr hoc hpa hpc hex]; simp
      · simp only [Function.comp, hwh b hb0, hwa, Bool.true_and, Bool.and_eq_true] at hb1
        exact (rowOf_availMerge_merge Pl Pr hd ha0 hb0 hR hb1.1).symm
    · rename_i hwa
      symm
      rw [List.map_eq_nil_iff, List.filter_eq_nil_iff]
      intro b hb0
      simp [hwh b hb0, hwa]
  · exact payDom_merge pl pr lc rc _ _ Pl.dom Pr.dom
  · intro t y hl s hs
    rw [SqlPayload.lookup_availMerge, Option.or_eq_some_iff] at hl
    exact List.mem_append.mpr (hl.symm.imp (fun h => Pl.availSrcs t y h.2 s hs) fun h => Pr.availSrcs t y h s hs)
  · intro s hs
    rw [SqlPred.srcsList_append, List.mem_append] at hs
    exact List.mem_append.mpr (hs.imp (Pl.whSrcs s) (Pr.whSrcs s))

end DafRel
