/-
`Select.apply_skip` as a chain of four optional steps: the equation every lemma about `applySkip` (and the
bridge to the regenerated `Gen.Select_apply_skip`) starts from, and its inversion.

The chain is written with `match`, not `>>=`: Lean's unifier identifies two stuck `match`es of this monomorphic
shape (this file's and the generated file's), but not a `match` and `Except.bind`, so only this form makes the
bridge lemma `rfl`.
-/
import DafRel.Model.Apply

namespace DafRel

/-- One optional step of `apply_skip`: `if cond: target = op.apply(target)`. -/
def optStep (cond : Bool) (op : UOp) (t : Rel) : Except Err Rel :=
  if cond then
    match op.finishApply t with
    | .error e => .error e
    | .ok v => .ok (v.get t)
  else .ok t

theorem optStep_then (c : Bool) (op : UOp) (t : Rel) (k : Rel → Except Err Rel) :
    (match optStep c op t with
      | .error e => .error e
      | .ok t' => k t') = if c then op.finishApply t >>= fun r => k (r.get t) else k t := by
  unfold optStep
  cases c <;> cases op.finishApply t <;> rfl

theorem optStep_then_eq_ok {c : Bool} {op : UOp} {t r : Rel} {k : Rel → Except Err Rel} :
    (match optStep c op t with
      | .error e => Except.error e
      | .ok t' => k t') = .ok r ↔ ∃ t', optStep c op t = .ok t' ∧ k t' = .ok r := by
  cases optStep c op t with
  | error e => exact ⟨fun h => (nomatch h), fun ⟨_, h, _⟩ => (nomatch h)⟩
  | ok a => exact ⟨fun h => ⟨a, rfl, h⟩, fun ⟨_, h, hk⟩ => by cases h; exact hk⟩

/-- The model's `applySkip` re-joins after each `if` (one join point per statement); this is the same
computation with the four statements in sequence. -/
theorem applySkip_eq (k : Rel) (sl : Slots) : applySkip k sl =
    match optStep (!sl.sort.isEmpty) (.sort sl.sort) k with
    | .error e => .error e
    | .ok t1 =>
    match optStep sl.proj.isSome (.proj (sl.proj.getD [])) t1 with
    | .error e => .error e
    | .ok t2 =>
    match optStep sl.dedup .dedup t2 with
    | .error e => .error e
    | .ok t3 =>
    match optStep (sl.sliceStart != 0 || sl.sliceStop.isSome) (.slice sl.sliceStart sl.sliceStop) t3 with
    | .error e => .error e
    | .ok t4 => .ok (.select 0 sl.sort sl.proj sl.dedup sl.sliceStart sl.sliceStop k (isChain k) t4) := by
  unfold applySkip
  -- the right side is brought to the if-tree the join points stand for; `-zeta` keeps the left side small
  simp -zeta only [optStep_then]
  cases sl.proj <;> rfl

theorem applySkip_eq_ok {k : Rel} {sl : Slots} {r : Rel} : applySkip k sl = .ok r ↔
    ∃ t1, optStep (!sl.sort.isEmpty) (.sort sl.sort) k = .ok t1 ∧
    ∃ t2, optStep sl.proj.isSome (.proj (sl.proj.getD [])) t1 = .ok t2 ∧
    ∃ t3, optStep sl.dedup .dedup t2 = .ok t3 ∧
    ∃ t4, optStep (sl.sliceStart != 0 || sl.sliceStop.isSome) (.slice sl.sliceStart sl.sliceStop) t3 = .ok t4 ∧
    .select 0 sl.sort sl.proj sl.dedup sl.sliceStart sl.sliceStop k (isChain k) t4 = r := by
  simp only [applySkip_eq, optStep_then_eq_ok, Except.ok.injEq]

end DafRel
