/-
Soundness of `sql.Engine._append_unary_to_select` (model `appendUnarySel`): the Select it returns is
coherent and has the rows of the operation applied to the rows of the given Select.

Every branch re-wraps some skip target with some slots (`Wrapped`), so every case comes down to one
equation between list functions: the new slots over the new skip target mean the operation applied after
the old slots (`Wrapped.append`).  Those equations are the `slots_*` lemmas, proved stage by stage from
the slots read as a pipeline (`Slots.sem_eq`).  The branches are of few kinds: the Select itself
(`SelOK.same`); `reapply_skip(**kwargs)`, new slots over the same skip target (`SelOK.reslot`); a new
outer Select around such a subquery (`SelOK.subWrap`) or around the Select itself (`SelOK.wrap`, which only
gives the `Wrapped` fact: the caller finishes with `Wrapped.append`, where the other three state the conclusion);
the operation below the slots (`after_sound`) or in a new outer query level (`nestOverSelect_sound`); a
projection pushed into the branches of a UNION (`proj_push_sound`).
-/
import DafRel.Lemmas.SelectBasics
import DafRel.Lemmas.Commute

namespace DafRel

theorem Slots.wfOn_sortOnly {ts : List SortTerm} {cols : Cols} (h : (UOp.sortCols ts).subset cols = true) :
    ({ sort := ts } : Slots).wfOn cols := ⟨h, fun _ hc => nomatch hc⟩

theorem Slots.wfOn_empty (cols : Cols) : ({} : Slots).wfOn cols := Slots.wfOn_sortOnly rfl

theorem Slots.wfOn_noSort {sl : Slots} {cols : Cols} (h : sl.wfOn cols) : ({ sl with sort := [] } : Slots).wfOn cols :=
  ⟨rfl, h.2⟩

theorem Slots.wfOn_mono {sl : Slots} {c1 c2 : Cols} (h : ∀ x, x ∈ c1 → x ∈ c2) (hw : sl.wfOn c1) : sl.wfOn c2 :=
  ⟨Cols.subset_mono hw.1 h, fun c hc => Cols.subset_mono (hw.2 c hc) h⟩

theorem Slots.columns_congr {sl : Slots} {c1 c2 : Cols} (h : ∀ x, x ∈ c1 ↔ x ∈ c2) :
    ∀ x, x ∈ sl.columns c1 ↔ x ∈ sl.columns c2 := by
  intro x
  unfold Slots.columns
  cases sl.proj with
  | none => exact h x
  | some c => exact Iff.rfl

theorem Slots.sem_congr {sl : Slots} {c1 c2 : Cols} (h : ∀ x, x ∈ c1 ↔ x ∈ c2) (l : List Row) :
    sl.sem c1 l = sl.sem c2 l := by
  unfold Slots.sem
  simp only [firstOcc_congr _ _ (Slots.columns_congr h)]

theorem Slots.columns_sub (sl : Slots) (cols : Cols) (h : sl.wfOn cols) : ∀ t, t ∈ sl.columns cols → t ∈ cols := by
  intro t ht
  cases hp : sl.proj with
  | none => exact Slots.columns_none hp cols ▸ ht
  | some c => exact Cols.mem_of_subset (h.2 c hp) (Slots.columns_some hp cols ▸ ht)

theorem SelOK.skipRows {σ : Leaves} {S : Rel} (hS : SelOK σ S) : RowsHaveCols (sem σ S.skipTo) S.skipTo.columns :=
  (metadata_truthful σ S.skipTo hS.skipWF hS.skipTruthful).keys

theorem SelOK.cols_sub {σ : Leaves} {S : Rel} (hS : SelOK σ S) : ∀ t, t ∈ S.columns → t ∈ S.skipTo.columns :=
  fun t ht => Slots.columns_sub _ _ hS.slotsWF t ((hS.cols t).mp ht)

theorem Slots.sem_eq_noSlice (sl : Slots) (cols : Cols) (l : List Row)
    (hns : (sl.sliceStart != 0 || sl.sliceStop.isSome) = false) :
    sl.sem cols l = dedupIf sl.dedup (sl.columns cols) (projOpt sl.proj (isort (lexLe sl.sort) l)) := by
  have h0 : sl.sliceStart = 0 ∧ sl.sliceStop = none := by
    simpa [Option.isSome_iff_ne_none] using hns
  rw [Slots.sem_eq, h0.1, h0.2]
  rfl

theorem Slots.sem_sortOnly (ts : List SortTerm) (cols : Cols) (l : List Row) :
    ({ sort := ts } : Slots).sem cols l = isort (lexLe ts) l :=
  Slots.sem_eq _ cols l

theorem Slots.sem_empty (cols : Cols) (l : List Row) : ({} : Slots).sem cols l = l :=
  (Slots.sem_sortOnly [] cols l).trans (isort_lexLe_nil l)

theorem rowsHaveCols_projOpt {sl : Slots} {cols : Cols} {l : List Row} (hsl : sl.wfOn cols) (hl : RowsHaveCols l cols) :
    RowsHaveCols (projOpt sl.proj l) (sl.columns cols) := by
  unfold projOpt Slots.columns
  cases hp : sl.proj with
  | none => exact hl
  | some c =>
    intro r hr
    obtain ⟨r0, hr0, rfl⟩ := List.mem_map.mp hr
    exact (hl r0 hr0).restrict c fun t => Cols.mem_of_subset (hsl.2 c hp)

theorem projOpt_filter (sl : Slots) (cols : Cols) (q : Pred) (l : List Row)
    (h : q.columnsRequired.subset (sl.columns cols) = true) :
    projOpt sl.proj (l.filter fun r => q.val r) = (projOpt sl.proj l).filter fun r => q.val r := by
  cases hp : sl.proj with
  | none => rfl
  | some c =>
    rw [Slots.columns_some hp] at h
    simp only [projOpt, List.filter_map]
    congr 1
    exact List.filter_congr fun r _ => (Pred.val_restrict q r c h).symm

theorem dedupIf_filter (d : Bool) (cols : Cols) (q : Row → Bool) (l : List Row) (hl : RowsHaveCols l cols) :
    dedupIf d cols (l.filter q) = (dedupIf d cols l).filter q := by
  cases d with
  | false => rfl
  | true => exact sel_dedup cols q l hl

theorem projOpt_isort (sl : Slots) (cols : Cols) (ts : List SortTerm) (l : List Row)
    (h : (UOp.sortCols ts).subset (sl.columns cols) = true) :
    projOpt sl.proj (isort (lexLe ts) l) = isort (lexLe ts) (projOpt sl.proj l) := by
  cases hp : sl.proj with
  | none => rfl
  | some c => exact (isort_lexLe_restrict ts c (Slots.columns_some hp cols ▸ h) l).symm

theorem dedupIf_isort (d : Bool) (cols : Cols) (ts : List SortTerm) (l : List Row) (hl : RowsHaveCols l cols) :
    dedupIf d cols (isort (lexLe ts) l) = isort (lexLe ts) (dedupIf d cols l) := by
  cases d with
  | false => rfl
  | true => exact sort_dedup cols ts l hl

theorem isort_stages (sl : Slots) (cols : Cols) (ts : List SortTerm) (l : List Row) (hl : RowsHaveCols l cols)
    (hsl : sl.wfOn cols) (hts : (UOp.sortCols ts).subset (sl.columns cols) = true) :
    dedupIf sl.dedup (sl.columns cols) (projOpt sl.proj (isort (lexLe ts) l)) =
      isort (lexLe ts) (dedupIf sl.dedup (sl.columns cols) (projOpt sl.proj l)) := by
  rw [projOpt_isort sl cols ts _ hts, dedupIf_isort _ _ _ _ (rowsHaveCols_projOpt hsl hl)]

theorem slots_sel (sl : Slots) (cols : Cols) (p : Pred) (l : List Row) (hl : RowsHaveCols l cols)
    (hsl : sl.wfOn cols) (hp : p.columnsRequired.subset (sl.columns cols) = true)
    (hns : (sl.sliceStart != 0 || sl.sliceStop.isSome) = false) :
    sl.sem cols (l.filter (fun r => p.val r)) = (sl.sem cols l).filter (fun r => p.val r) := by
  rw [Slots.sem_eq_noSlice _ _ _ hns, Slots.sem_eq_noSlice _ _ _ hns,
    ← filter_isort (lexLe_total _) (lexLe_trans _),
    projOpt_filter sl cols p _ hp, dedupIf_filter _ _ _ _ (rowsHaveCols_projOpt hsl (rowsHaveCols_isort hl))]

theorem slots_slice (sl : Slots) (cols : Cols) (a : Nat) (b : Option Nat) (a' : Nat) (b' : Option Nat)
    (l : List Row) (hm : UOp.sliceThen sl.sliceStart sl.sliceStop a b = .ok (.slice a' b')) :
    ({ sl with sliceStart := a', sliceStop := b' } : Slots).sem cols l = sliceList a b (sl.sem cols l) := by
  rw [Slots.sem_eq, Slots.sem_eq]
  exact (sliceThen_sound sl.sliceStart sl.sliceStop a b a' b' hm _).symm

theorem slots_sort (sl : Slots) (cols : Cols) (ts : List SortTerm) (l : List Row) (hl : RowsHaveCols l cols)
    (hsl : sl.wfOn cols) (hts : (UOp.sortCols ts).subset (sl.columns cols) = true)
    (hns : (sl.sliceStart != 0 || sl.sliceStop.isSome) = false) :
    ({ sl with sort := UOp.sortThen sl.sort ts } : Slots).sem cols l = isort (lexLe ts) (sl.sem cols l) := by
  rw [Slots.sem_eq_noSlice sl _ _ hns, Slots.sem_eq_noSlice { sl with sort := UOp.sortThen sl.sort ts } _ _ hns]
  show dedupIf sl.dedup (sl.columns cols) (projOpt sl.proj (isort (lexLe (UOp.sortThen sl.sort ts)) l)) = _
  rw [isort_sortThen, isort_stages sl cols ts _ (rowsHaveCols_isort hl) hsl hts]

theorem sortThen_nil_left (ts : List SortTerm) : UOp.sortThen [] ts = ts := rfl

theorem slots_sort_last {sl : Slots} {cols : Cols} {l : List Row} (hl : RowsHaveCols l cols) (hsl : sl.wfOn cols)
    (hsc : (UOp.sortCols sl.sort).subset (sl.columns cols) = true)
    (hns : (sl.sliceStart != 0 || sl.sliceStop.isSome) = false) :
    sl.sem cols l = isort (lexLe sl.sort) (({ sl with sort := [] } : Slots).sem cols l) := by
  have h := slots_sort { sl with sort := [] } cols sl.sort l hl (Slots.wfOn_noSort hsl) hsc hns
  rwa [sortThen_nil_left] at h

theorem slots_dedup_same (sl : Slots) (cols : Cols) (l : List Row) (hd : sl.dedup = true) :
    firstOcc (sl.columns cols) (sl.sem cols l) = sl.sem cols l := by
  rw [Slots.sem_eq, hd]
  exact firstOcc_of_sublist_firstOcc _ _ _ (sliceList_sublist _ _ _)

theorem slots_dedup_add (sl : Slots) (cols : Cols) (l : List Row) (hd : sl.dedup = false)
    (hns : (sl.sliceStart != 0 || sl.sliceStop.isSome) = false) :
    ({ sl with dedup := true } : Slots).sem cols l = firstOcc (sl.columns cols) (sl.sem cols l) := by
  rw [Slots.sem_eq_noSlice sl _ _ hns, Slots.sem_eq_noSlice { sl with dedup := true } _ _ hns, hd]
  rfl

/-- `hp`: a recorded projection is widened by the new column. -/
theorem slots_calc (sl sl' : Slots) (cols : Cols) (tag : Tag) (e : Expr) (l : List Row) (hl : RowsHaveCols l cols)
    (hsl : sl.wfOn cols) (htag : tag ∉ cols) (he : e.columnsRequired.subset (sl.columns cols) = true)
    (h1 : sl'.sort = sl.sort) (h2 : sl'.dedup = sl.dedup) (h3 : sl'.sliceStart = sl.sliceStart)
    (h4 : sl'.sliceStop = sl.sliceStop)
    (hp : match sl.proj with
      | none => sl'.proj = none
      | some c => ∃ c', sl'.proj = some c' ∧ ∀ x, x ∈ c' ↔ x ∈ c.insert tag) :
    sl'.sem (cols.insert tag) (l.map (fun r => r.set tag (e.val r))) =
      (sl.sem cols l).map (fun r => r.set tag (e.val r)) := by
  rw [Slots.sem_eq, Slots.sem_eq, h1, h2, h3, h4, ← sliceList_map, isort_lexLe_set sl.sort cols tag e.val hsl.1 htag l]
  congr 1
  have hy := rowsHaveCols_projOpt hsl (rowsHaveCols_isort (le := lexLe sl.sort) hl)
  generalize isort (lexLe sl.sort) l = x at hy ⊢
  have htc : tag ∉ sl.columns cols := fun hm => htag (Slots.columns_sub _ _ hsl tag hm)
  have hpj : projOpt sl'.proj (x.map (fun r => r.set tag (e.val r))) =
        (projOpt sl.proj x).map (fun r => r.set tag (e.val r)) ∧
      ∀ t, t ∈ sl'.columns (cols.insert tag) ↔ t ∈ (sl.columns cols).insert tag := by
    unfold Slots.columns projOpt at *
    cases hpj : sl.proj with
    | none => simp only [hpj] at hp; rw [hp]; exact ⟨rfl, fun _ => Iff.rfl⟩
    | some c =>
      simp only [hpj] at hp he
      obtain ⟨c', hc', hcc⟩ := hp
      simp only [hc']
      refine ⟨?_, hcc⟩
      rw [List.map_map, List.map_map]
      apply List.map_congr_left
      intro r _
      simp only [Function.comp]
      rw [Row.restrict_congr _ c' (c.insert tag) hcc, Row.set_restrict_insert, Expr.val_restrict e r c he]
  rw [hpj.1]
  unfold dedupIf
  cases sl.dedup with
  | false => rfl
  | true =>
    simp only [if_true]
    rw [firstOcc_congr _ _ hpj.2]
    exact calc_dedup _ tag e _ hy htc

theorem slots_proj (sl : Slots) (cols c : Cols) (l : List Row) (hd : sl.dedup = false)
    (hc : ∀ t, t ∈ c → t ∈ sl.columns cols) :
    ({ sl with proj := some c } : Slots).sem cols l = (sl.sem cols l).map (fun r => r.restrict c) := by
  rw [Slots.sem_eq, Slots.sem_eq, ← sliceList_map, hd]
  congr 1
  -- a recorded projection is overwritten by the narrower one
  show (isort (lexLe sl.sort) l).map (fun r => r.restrict c) = (projOpt sl.proj _).map _
  cases hp : sl.proj with
  | none => rfl
  | some c0 => exact (map_restrict_restrict _ c c0 fun t ht => Slots.columns_some hp cols ▸ hc t ht).symm

/-- The nested form of a projection: an inner Select keeps the projection and deduplication, an
outer one sorts, projects and slices. -/
theorem slots_proj_nest (sl : Slots) (cols cols' c : Cols) (l : List Row) (hl : RowsHaveCols l cols)
    (hsl : sl.wfOn cols) (hsort : (UOp.sortCols sl.sort).subset (sl.columns cols) = true) :
    ({ sort := sl.sort, proj := some c, sliceStart := sl.sliceStart, sliceStop := sl.sliceStop } : Slots).sem cols'
        (({ sl with sort := [], sliceStart := 0, sliceStop := none } : Slots).sem cols l) =
      (sl.sem cols l).map (fun r => r.restrict c) := by
  rw [Slots.sem_eq, Slots.sem_eq, Slots.sem_eq, ← sliceList_map]
  show sliceList _ _ ((isort (lexLe sl.sort) (dedupIf sl.dedup (sl.columns cols)
    (projOpt sl.proj (isort (lexLe []) l)))).map fun r => r.restrict c) = _
  rw [isort_lexLe_nil, ← isort_stages sl cols sl.sort l hl hsl hsort]

theorem slots_proj_pushed (sl : Slots) (cols cols' c : Cols) (l : List Row) (hd : sl.dedup = false)
    (hsort : (UOp.sortCols sl.sort).subset c = true) :
    ({ sl with proj := none } : Slots).sem cols' (l.map (fun r => r.restrict c)) =
      ({ sl with proj := some c } : Slots).sem cols l := by
  rw [Slots.sem_eq, Slots.sem_eq, hd]
  show sliceList _ _ (isort (lexLe sl.sort) (l.map fun r => r.restrict c)) = _
  rw [isort_lexLe_restrict sl.sort c hsort l]
  rfl

structure Wrapped (σ : Leaves) (k : Rel) (sl : Slots) (r : Rel) : Prop where
  ok : SelOK σ r
  skipTo : r.skipTo = k
  slots : r.slots = sl
  oid : r.oid = 0

theorem applySkip_wrapped (σ : Leaves) {k : Rel} {sl : Slots} {r : Rel} (hwf : k.WF) (htr : k.Truthful σ)
    (hsl : sl.wfOn k.columns) (hcp : isChain k = true → sl.proj = none) (h : applySkip k sl = .ok r) :
    Wrapped σ k sl r := by
  obtain ⟨t, rfl⟩ := applySkip_shape h
  obtain ⟨a, b, c, d, he⟩ := applySkip_sound σ k sl _ hwf htr hsl h
  exact ⟨{ isSel := rfl, compound := rfl, compoundProj := hcp, skipWF := hwf, skipTruthful := htr, slotsWF := hsl,
           wf := a, truthful := b, sem_eq := c, cols := d, engine := he }, rfl, rfl, rfl⟩

theorem Wrapped.sem_eq {σ k sl r} (W : Wrapped σ k sl r) : sem σ r = sl.sem k.columns (sem σ k) := by
  rw [W.ok.sem_eq, W.skipTo, W.slots]

theorem Wrapped.cols {σ k sl r} (W : Wrapped σ k sl r) (c : Tag) : c ∈ r.columns ↔ c ∈ sl.columns k.columns := by
  rw [W.ok.cols c, W.skipTo, W.slots]

theorem Wrapped.engine {σ k sl r} (W : Wrapped σ k sl r) : r.engine = k.engine := by
  rw [W.ok.engine, W.skipTo]

theorem SelOK.chainProj {σ : Leaves} {S : Rel} (hS : SelOK σ S) (hc : isChain S.skipTo = true) : S.slots.proj = none :=
  hS.compoundProj (hS.compound.trans hc)

theorem SelOK.wrap {σ : Leaves} {S : Rel} (hS : SelOK σ S) {sl' : Slots} {r : Rel}
    (hsl : sl'.wfOn S.columns) (h : applySkip S sl' = .ok r) : Wrapped σ S sl' r :=
  applySkip_wrapped σ hS.wf hS.truthful hsl
    (fun hc => by rw [not_chain_of_select S hS.isSel] at hc; cases hc) h

variable {I : NodeInv}

/-- The skip target of the Select returned by `_append_unary_to_select` is again a Good tree when the
given Select is. -/
def SkipOK (I : NodeInv) (σ : Leaves) (S S' : Rel) : Prop :=
  Good I σ S → S.isSelect = true → Good I σ S'.skipTo ∧ S'.skipTo.compOK true = true ∧ I.sel S'

/-- The result is a fresh Select, or the Select that was passed in. -/
def FreshOr (S S' : Rel) : Prop := S'.oid = 0 ∨ S' = S

theorem skipOK_same (σ : Leaves) (S S' : Rel) (h : S'.skipTo = S.skipTo) (hf : FreshOr S S') : SkipOK I σ S S' :=
  fun g hs => by
    obtain ⟨_, hsh, hI, gk⟩ := g.selParts hs
    rw [h]
    exact ⟨gk, hsh, hf.elim (I.selNew S') fun e => e ▸ hI⟩

def GoodSkip (I : NodeInv) (σ : Leaves) (k : Rel) : Prop := Good I σ k ∧ k.compOK true = true

theorem GoodSkip.skipTo {σ : Leaves} {S : Rel} (g : Good I σ S) (hs : S.isSelect = true) : GoodSkip I σ S.skipTo :=
  ⟨(g.selInv hs).2, g.shape hs⟩

theorem GoodSkip.self {σ : Leaves} {S : Rel} (g : Good I σ S) (hs : S.isSelect = true) : GoodSkip I σ S :=
  ⟨g, g.compOK hs true⟩

theorem GoodSkip.chain {σ : Leaves} {l r : Rel} {c : Cols} (gl : Good I σ l) (gr : Good I σ r)
    (sl : l.isSelect = true) (sr : r.isSelect = true) (hwf : (Rel.binary .chain l r c).WF) :
    GoodSkip I σ (.binary .chain l r c) :=
  ⟨Good.chain _ _ _ gl gr hwf, by simp [Rel.compOK, sl, sr, gl.compOK sl false, gr.compOK sr false]⟩

theorem Wrapped.goodSkip {σ : Leaves} {k : Rel} {sl : Slots} {r : Rel} (W : Wrapped σ k sl r)
    (hk : GoodSkip I σ k) : GoodSkip I σ r :=
  have g : Good I σ r := Good.ofSel W.ok (W.skipTo ▸ hk.2) (I.selNew r W.oid) (W.skipTo ▸ hk.1)
  ⟨g, g.compOK W.ok.isSel true⟩

theorem GoodSkip.finishApply {σ : Leaves} {t : Rel} {op : UOp} {res : Res} (g : Good I σ t)
    (hc : t.compOK false = true) (hop : op.wfOn t.columns = true) (hb : op.belowSlots = true)
    (h : op.finishApply t = .ok res) : GoodSkip I σ (res.get t) :=
  ⟨finishApply_good σ t op res g hop h, compOK_true_of_false _ (finishApply_compOK t op res hb hc h)⟩

theorem Wrapped.append {σ : Leaves} {k' : Rel} {sl' : Slots} {r S : Rel} {op : UOp}
    (W : Wrapped σ k' sl' r)
    (hsem : sl'.sem k'.columns (sem σ k') = op.sem (op.appliedColumns S.columns) (sem σ S))
    (hcols : ∀ c, c ∈ sl'.columns k'.columns ↔ c ∈ op.appliedColumns S.columns)
    (heng : k'.engine = S.engine)
    (hk : Good I σ S → S.isSelect = true → GoodSkip I σ k') :
    AppendOK σ op S r ∧ SkipOK I σ S r :=
  ⟨⟨W.ok, W.sem_eq.trans hsem, fun c => (W.cols c).trans (hcols c), W.engine.trans heng⟩,
   fun g hs => by rw [W.skipTo]; exact ⟨(hk g hs).1, (hk g hs).2, I.selNew r W.oid⟩⟩

theorem reapplySkip_kw_eq_ok {S : Rel} {ns : Option Rel} {sl' : Slots} {res : Res}
    (h : reapplySkip S ns none (some sl') = .ok res) :
    ∃ r, applySkip (ns.getD S.skipTo) sl' = .ok r ∧ .new r = res := by
  have e : reapplySkip S ns none (some sl') = (do let r ← applySkip (ns.getD S.skipTo) sl'; pure (.new r)) := by
    cases ns <;> rfl
  exact Except.bind_pure_eq_ok.mp (e ▸ h)

theorem reapplySkip_after_eq (S : Rel) (op : UOp) (kw : Option Slots) :
    reapplySkip S none (some op) kw = (do
      let x ← op.finishApply S.skipTo
      match kw, x with
      | none, .same => pure .same
      | _, _ => do let r ← applySkip (x.get S.skipTo) (kw.getD S.slots); pure (.new r)) := by
  unfold reapplySkip
  dsimp only
  congr 1
  funext x
  cases x <;> cases kw <;> rfl

theorem SelOK.same {σ : Leaves} {S : Rel} (hS : SelOK σ S) {op : UOp}
    (hsem : sem σ S = op.sem (op.appliedColumns S.columns) (sem σ S))
    (hcols : ∀ c, c ∈ S.columns ↔ c ∈ op.appliedColumns S.columns) : AppendOK σ op S S ∧ SkipOK I σ S S :=
  ⟨⟨hS, hsem, hcols, rfl⟩, skipOK_same σ S S rfl (Or.inr rfl)⟩

theorem SelOK.reslot {σ : Leaves} {S : Rel} (hS : SelOK σ S) {op : UOp} {sl' : Slots} {res : Res}
    (h : reapplySkip S none none (some sl') = .ok res)
    (hsl : sl'.wfOn S.skipTo.columns) (hp : isChain S.skipTo = true → sl'.proj = none)
    (hsem : sl'.sem S.skipTo.columns (sem σ S.skipTo) =
      op.sem (op.appliedColumns S.columns) (S.slots.sem S.skipTo.columns (sem σ S.skipTo)))
    (hcols : ∀ c, c ∈ sl'.columns S.skipTo.columns ↔ c ∈ op.appliedColumns S.columns) :
    AppendOK σ op S (res.get S) ∧ SkipOK I σ S (res.get S) := by
  obtain ⟨r, ha, rfl⟩ := reapplySkip_kw_eq_ok h
  exact (applySkip_wrapped σ hS.skipWF hS.skipTruthful hsl hp ha).append (hS.sem_eq ▸ hsem) hcols hS.engine.symm
    GoodSkip.skipTo

/-- `sl0`: the slots of the subquery, `sl1`: those of the new outer Select. -/
theorem SelOK.subWrap {σ : Leaves} {S : Rel} (hS : SelOK σ S) {op : UOp} {sl0 sl1 : Slots} {res : Res}
    (h : (do let sub ← reapplySkip S none none (some sl0)
             let r ← applySkip (sub.get S) sl1
             pure (Res.new r)) = .ok res)
    (hsl0 : sl0.wfOn S.skipTo.columns) (hp0 : isChain S.skipTo = true → sl0.proj = none)
    (hsl1 : sl1.wfOn (sl0.columns S.skipTo.columns))
    (hsem : sl1.sem (sl0.columns S.skipTo.columns) (sl0.sem S.skipTo.columns (sem σ S.skipTo)) =
      op.sem (op.appliedColumns S.columns) (S.slots.sem S.skipTo.columns (sem σ S.skipTo)))
    (hcols : ∀ c, c ∈ sl1.columns (sl0.columns S.skipTo.columns) ↔ c ∈ op.appliedColumns S.columns) :
    AppendOK σ op S (res.get S) ∧ SkipOK I σ S (res.get S) := by
  obtain ⟨sub, hsub, h⟩ := Except.bind_eq_ok.mp h
  obtain ⟨r0, ha0, rfl⟩ := reapplySkip_kw_eq_ok hsub
  obtain ⟨r, ha, rfl⟩ := Except.bind_pure_eq_ok.mp h
  have W0 := applySkip_wrapped σ hS.skipWF hS.skipTruthful hsl0 hp0 ha0
  refine (W0.ok.wrap (Slots.wfOn_mono (fun x => (W0.cols x).mpr) hsl1) ha).append ?_
    (fun c => (Slots.columns_congr W0.cols c).trans (hcols c)) (W0.engine.trans hS.engine.symm)
    (fun g hs => W0.goodSkip (GoodSkip.skipTo g hs))
  rw [Slots.sem_congr W0.cols, W0.sem_eq, hsem, hS.sem_eq]

/-- `hcomm`: the Sort that moves to the outer level commutes with the operation. -/
theorem nestOverSelect_sound (σ : Leaves) (op : UOp) (S : Rel) (hS : SelOK σ S) (hop : op.wfOn S.columns = true)
    (hbs : op.belowSlots = true)
    (hsub : ∀ t, t ∈ S.columns → t ∈ op.appliedColumns S.columns)
    (hcomm : (UOp.sortCols S.slots.sort).subset S.columns = true → ∀ l : List Row, RowsHaveCols l S.columns →
      op.sem (op.appliedColumns S.columns) (isort (lexLe S.slots.sort) l) =
        isort (lexLe S.slots.sort) (op.sem (op.appliedColumns S.columns) l))
    (res : Res) (h : nestOverSelect op S = .ok res) (st : Store) (fuel : Nat) :
    AppendOK σ op S (res.get S) ∧ SkipOK I σ S (res.get S) := by
  revert h
  fun_cases nestOverSelect op S with
  | case1 s hg =>
    intro h
    simp only [Bool.and_eq_true, Bool.not_eq_true'] at hg
    obtain ⟨⟨_, hns⟩, hsc⟩ := hg
    obtain ⟨sub, hsb, h⟩ := Except.bind_eq_ok.mp h
    obtain ⟨r0, ha0, rfl⟩ := reapplySkip_kw_eq_ok hsb
    obtain ⟨inner, hi, h⟩ := Except.bind_eq_ok.mp h
    obtain ⟨r, ha, rfl⟩ := Except.bind_pure_eq_ok.mp h
    have W0 := applySkip_wrapped σ hS.skipWF hS.skipTruthful (Slots.wfOn_noSort hS.slotsWF) hS.chainProj ha0
    have hc0 : ∀ x, x ∈ r0.columns ↔ x ∈ S.columns := fun x => (W0.cols x).trans (hS.cols x).symm
    -- the rows of `S` are the sorted rows of the subquery
    have hsemS : sem σ S = isort (lexLe S.slots.sort) (sem σ r0) := by
      rw [hS.sem_eq, W0.sem_eq]
      exact slots_sort_last hS.skipRows hS.slotsWF (Cols.subset_mono hsc fun t => (hS.cols t).mp) hns
    have hop0 : op.wfOn r0.columns = true := (UOp.wfOn_congr op _ _ hc0).trans hop
    have F := finishApply_sound σ r0 op W0.ok.wf W0.ok.truthful hop0 inner hi
    obtain ⟨Fs, Fc⟩ := F.on (L := sem σ r0) rfl hc0
    have hwo : ({ sort := S.slots.sort } : Slots).wfOn (inner.get r0).columns :=
      Slots.wfOn_sortOnly (Cols.subset_mono hsc fun t ht => (Fc t).mpr (hsub t ht))
    have hrows0 : RowsHaveCols (sem σ r0) S.columns :=
      fun x hx => ((metadata_truthful σ r0 W0.ok.wf W0.ok.truthful).keys x hx).congr hc0
    refine (applySkip_wrapped σ F.wf F.truthful hwo (fun _ => rfl) ha).append ?_
      Fc (F.engine.trans (W0.engine.trans hS.engine.symm))
      (fun g hs => by
        have g0 := W0.goodSkip (GoodSkip.skipTo g hs)
        exact GoodSkip.finishApply g0.1 (g0.1.compOK W0.ok.isSel false) hop0 hbs hi)
    rw [Slots.sem_sortOnly, Fs, hsemS, hcomm hsc _ hrows0]
  | case2 =>
    intro h
    obtain ⟨inner, hi, h⟩ := Except.bind_eq_ok.mp h
    obtain ⟨r, ha, rfl⟩ := Except.bind_pure_eq_ok.mp h
    have F := finishApply_sound σ S op hS.wf hS.truthful hop inner hi
    exact (applySkip_wrapped σ F.wf F.truthful (Slots.wfOn_empty _) (fun _ => rfl) ha).append
      ((Slots.sem_empty _ _).trans F.sem_eq) F.cols F.engine
      (fun g hs => GoodSkip.finishApply g (g.compOK hs false) hop hbs hi)

/-- `reapply_skip(after=op, **kw)`: the operation goes below the slots, which must absorb it (`hsem`). -/
theorem after_sound (σ : Leaves) (S : Rel) (op : UOp) (kw : Option Slots) (res : Res) (hS : SelOK σ S)
    (hop : op.wfOn S.skipTo.columns = true) (hb : op.belowSlots = true) (hchain : isChain S.skipTo = false)
    (hsl : (kw.getD S.slots).wfOn (op.appliedColumns S.skipTo.columns))
    (hsem : (kw.getD S.slots).sem (op.appliedColumns S.skipTo.columns)
        (op.sem (op.appliedColumns S.skipTo.columns) (sem σ S.skipTo)) =
      op.sem (op.appliedColumns S.columns) (sem σ S))
    (hcols : ∀ c, c ∈ (kw.getD S.slots).columns (op.appliedColumns S.skipTo.columns) ↔
      c ∈ op.appliedColumns S.columns)
    (h : reapplySkip S none (some op) kw = .ok res) :
    AppendOK σ op S (res.get S) ∧ SkipOK I σ S (res.get S) := by
  rw [reapplySkip_after_eq] at h
  obtain ⟨x, hf, h⟩ := Except.bind_eq_ok.mp h
  have F := finishApply_sound σ S.skipTo op hS.skipWF hS.skipTruthful hop x hf
  split at h
  · cases Except.pure_eq_ok.mp h
    refine hS.same ?_ fun c => ?_
    · rw [← hsem, ← F.sem_eq]
      exact hS.sem_eq.trans (Slots.sem_congr F.cols _)
    · exact ((hS.cols c).trans (Slots.columns_congr F.cols c)).trans (hcols c)
  · obtain ⟨r, ha, rfl⟩ := Except.bind_pure_eq_ok.mp h
    have hnc' : isChain (x.get S.skipTo) = false := by
      cases x with
      | same => exact hchain
      | new k => exact finishApply_not_chain hb hf
    refine (applySkip_wrapped σ F.wf F.truthful (Slots.wfOn_mono (fun t => (F.cols t).mpr) hsl)
      (fun hc => by rw [hnc'] at hc; cases hc) ha).append ?_
      (fun c => (Slots.columns_congr F.cols c).trans (hcols c)) (F.engine.trans hS.engine.symm)
      (fun g hs => GoodSkip.finishApply (g.selInv hs).2 (compOK_false_of_not_chain _ (g.shape hs) hchain) hop hb hf)
    rw [Slots.sem_congr F.cols, F.sem_eq]
    exact hsem

theorem append_sel_sound (σ : Leaves) (st : Store) (fuel : Nat) (p : Pred) (S : Rel) (res : Res)
    (hS : SelOK σ S) (hop : (UOp.sel p).wfOn S.columns = true)
    (h : appendUnarySel st (fuel+1) (.u (.sel p)) S = .ok res) :
    AppendOK σ (.sel p) S (res.get S) ∧ SkipOK I σ S (res.get S) := by
  rw [appendUnarySel] at h
  split at h
  · exact nestOverSelect_sound σ (.sel p) S hS hop rfl (fun _ h => h)
      (fun _ l _ => filter_isort (lexLe_total _) (lexLe_trans _) _ l) res h st fuel
  · rename_i hb
    simp only [Bool.or_eq_true, not_or, Bool.not_eq_true] at hb
    have hreq : p.columnsRequired.subset S.columns = true := by rwa [UOp.wfOn_sel] at hop
    refine after_sound σ S (.sel p) none res hS ?_ rfl (hS.compound.symm.trans hb.2) hS.slotsWF ?_
      (fun c => (hS.cols c).symm) h
    · rw [UOp.wfOn_sel]; exact Cols.subset_mono hreq hS.cols_sub
    · rw [hS.sem_eq]
      exact slots_sel S.slots S.skipTo.columns p _ hS.skipRows hS.slotsWF
        (Cols.subset_mono hreq fun t => (hS.cols t).mp) hb.1

theorem append_slice_sound (σ : Leaves) (st : Store) (fuel : Nat) (a : Nat) (b : Option Nat) (S : Rel) (res : Res)
    (hS : SelOK σ S)
    (h : appendUnarySel st (fuel+1) (.u (.slice a b)) S = .ok res) :
    AppendOK σ (.slice a b) S (res.get S) ∧ SkipOK I σ S (res.get S) := by
  rw [appendUnarySel] at h
  split at h
  · cases h
  · rename_i a' b' hm
    exact hS.reslot h hS.slotsWF hS.chainProj (slots_slice S.slots _ a b a' b' _ hm) fun c => (hS.cols c).symm
  · cases h

theorem append_dedup_sound (σ : Leaves) (st : Store) (fuel : Nat) (S : Rel) (res : Res)
    (hS : SelOK σ S)
    (h : appendUnarySel st (fuel+1) (.u .dedup) S = .ok res) :
    AppendOK σ .dedup S (res.get S) ∧ SkipOK I σ S (res.get S) := by
  rw [appendUnarySel] at h
  have hcc : ∀ x, x ∈ UOp.dedup.appliedColumns S.columns ↔ x ∈ S.slots.columns S.skipTo.columns := hS.cols
  split at h
  · rename_i hd
    simp only [Bool.not_eq_true'] at hd
    split at h
    · obtain ⟨r, ha, rfl⟩ := Except.bind_pure_eq_ok.mp h
      -- the slots are a literal: `wfOn` and `sem` compute, so the row obligation is `rfl` (as for `{ proj := some c }` in
      -- `append_proj_sound`; `{ sort := ts }` in `append_sort_sound` needs `Slots.sem_sortOnly`: `if ts.isEmpty` is stuck)
      exact (hS.wrap (sl' := { dedup := true }) ⟨rfl, nofun⟩ ha).append rfl (fun _ => Iff.rfl) rfl GoodSkip.self
    · rename_i hsl
      simp only [Bool.not_eq_true] at hsl
      exact hS.reslot h hS.slotsWF hS.chainProj
        ((slots_dedup_add _ _ _ hd hsl).trans (firstOcc_congr _ _ hcc _).symm) fun c => (hS.cols c).symm
  · rename_i hd
    simp only [Bool.not_eq_true', Bool.not_eq_false] at hd
    cases h
    refine hS.same ?_ fun _ => Iff.rfl
    simp only [UOp.sem]
    rw [firstOcc_congr _ _ hcc, hS.sem_eq]
    exact (slots_dedup_same _ _ _ hd).symm

theorem append_sort_sound (σ : Leaves) (st : Store) (fuel : Nat) (ts : List SortTerm) (S : Rel) (res : Res)
    (hS : SelOK σ S) (hop : (UOp.sort ts).wfOn S.columns = true)
    (h : appendUnarySel st (fuel+1) (.u (.sort ts)) S = .ok res) :
    AppendOK σ (.sort ts) S (res.get S) ∧ SkipOK I σ S (res.get S) := by
  rw [appendUnarySel] at h
  have hts : (UOp.sortCols ts).subset S.columns = true := by rwa [UOp.wfOn_sort] at hop
  split at h
  · obtain ⟨r, ha, rfl⟩ := Except.bind_pure_eq_ok.mp h
    exact (hS.wrap (Slots.wfOn_sortOnly hts) ha).append (Slots.sem_sortOnly _ _ _) (fun _ => Iff.rfl) rfl
      GoodSkip.self
  · rename_i hsl
    simp only [Bool.not_eq_true] at hsl
    dsimp only at h
    have hmerged : (UOp.sortCols (UOp.sortThen S.slots.sort ts)).subset S.skipTo.columns = true :=
      (Cols.subset_iff _ _).mpr fun x hx => (mem_sortCols_sortThen hx).elim
        (fun h => hS.cols_sub x (Cols.mem_of_subset hts h)) (Cols.mem_of_subset hS.slotsWF.1)
    split at h
    · -- sort a subquery wrapping the UNION, which records no projection
      rename_i hc
      simp only [Bool.and_eq_true] at hc
      have hcol := Slots.columns_none (hS.compoundProj hc.1) S.skipTo.columns
      refine hS.subWrap h (Slots.wfOn_noSort hS.slotsWF) hS.chainProj
        (Slots.wfOn_sortOnly (hcol ▸ hmerged :)) ?_ (fun c => (hS.cols c).symm)
      rw [Slots.sem_sortOnly, isort_sortThen]
      exact congrArg _ (slots_sort_last hS.skipRows hS.slotsWF (hcol ▸ hS.slotsWF.1 :) hsl).symm
    · exact hS.reslot h ⟨hmerged, hS.slotsWF.2⟩ hS.chainProj
        (slots_sort S.slots _ ts _ hS.skipRows hS.slotsWF (Cols.subset_mono hts fun t => (hS.cols t).mp) hsl)
        fun c => (hS.cols c).symm

theorem append_calc_sound (σ : Leaves) (st : Store) (fuel : Nat) (tag : Tag) (e : Expr) (S : Rel) (res : Res)
    (hS : SelOK σ S) (hop : (UOp.calc tag e).wfOn S.columns = true)
    (h : appendUnarySel st (fuel+1) (.u (.calc tag e)) S = .ok res) :
    AppendOK σ (.calc tag e) S (res.get S) ∧ SkipOK I σ S (res.get S) := by
  rw [appendUnarySel] at h
  obtain ⟨hreqS, htagS⟩ := (UOp.wfOn_calc tag e S.columns).mp hop
  have hins {cols : Cols} : ∀ t, t ∈ cols → t ∈ cols.insert tag := fun _ ht => (Cols.mem_insert _ _ _).mpr (Or.inl ht)
  split at h
  · exact nestOverSelect_sound σ (.calc tag e) S hS hop rfl hins
      (fun hsc l _ => (isort_lexLe_set _ S.columns tag e.val hsc htagS l).symm) res h st fuel
  · rename_i hb
    simp only [Bool.or_eq_true, not_or, Bool.not_eq_true, decide_eq_true_eq] at hb
    obtain ⟨hcomp, htag⟩ := hb
    have below := fun kw => after_sound (I := I) σ S (.calc tag e) kw res hS
      ((UOp.wfOn_calc tag e _).mpr ⟨Cols.subset_mono hreqS hS.cols_sub, htag⟩) rfl (hS.compound.symm.trans hcomp)
    have absorb := fun sl' => slots_calc S.slots sl' S.skipTo.columns tag e _ hS.skipRows hS.slotsWF htag
      (Cols.subset_mono hreqS fun t => (hS.cols t).mp)
    split at h
    · rename_i hpj
      obtain ⟨c, hc⟩ := Option.isSome_iff_exists.mp hpj
      refine below (some { S.slots with proj := some (S.columns.insert tag) })
        ⟨Cols.subset_mono hS.slotsWF.1 hins, fun c0 hc0 => ?_⟩ ?_ (fun _ => Iff.rfl) h
      · cases hc0
        exact (Cols.subset_iff _ _).mpr fun t ht =>
          (Cols.mem_insert _ _ _).mpr (((Cols.mem_insert _ _ _).mp ht).imp_left (hS.cols_sub t))
      · rw [hS.sem_eq]
        apply absorb { S.slots with proj := some (S.columns.insert tag) } rfl rfl rfl rfl
        simp only [hc]
        refine ⟨_, rfl, fun x => ?_⟩
        rw [Cols.mem_insert, Cols.mem_insert, hS.cols x, Slots.columns_some hc]
    · rename_i hpj
      have hpn : S.slots.proj = none := by simpa [Slots.hasProj] using hpj
      refine below none (Slots.wfOn_mono hins hS.slotsWF) ?_ (fun x => ?_) h
      · rw [hS.sem_eq]
        apply absorb S.slots rfl rfl rfl rfl
        simp only [hpn]
      · show x ∈ S.slots.columns (S.skipTo.columns.insert tag) ↔ x ∈ S.columns.insert tag
        rw [Slots.columns_none hpn, Cols.mem_insert, Cols.mem_insert, hS.cols x, Slots.columns_none hpn]

theorem proj_nest_sound (σ : Leaves) (S : Rel) (c : Cols) (hS : SelOK σ S) (hc : c.subset S.columns = true)
    (hsort : (UOp.sortCols S.slots.sort).subset S.columns = true) (res : Res)
    (h : (do let sub ← reapplySkip S none none
                (some ({ S.slots with sort := [], sliceStart := 0, sliceStop := none } : Slots))
             let r ← applySkip (sub.get S)
                (⟨S.slots.sort, some c, false, S.slots.sliceStart, S.slots.sliceStop⟩ : Slots)
             pure (Res.new r)) = .ok res) :
    AppendOK σ (.proj c) S (res.get S) ∧ SkipOK I σ S (res.get S) :=
  have hsort' := Cols.subset_mono hsort fun t => (hS.cols t).mp
  hS.subWrap h ⟨rfl, hS.slotsWF.2⟩ hS.chainProj
    ⟨hsort', fun _ hc1 => by cases hc1; exact Cols.subset_mono hc fun t => (hS.cols t).mp⟩
    (slots_proj_nest S.slots _ _ c _ hS.skipRows hS.slotsWF hsort') (fun _ => Iff.rfl)

/-- A projection pushed into the branches of a UNION: the sort terms survive it, nothing is deduplicated. -/
theorem proj_push_sound (σ : Leaves) (S : Rel) (c : Cols) (hS : SelOK σ S)
    (hc : ∀ t, t ∈ c → t ∈ S.slots.columns S.skipTo.columns) (hd : S.slots.dedup = false) (hso : (UOp.sortCols S.slots.sort).subset c = true)
    (l r : Rel) (cc : Cols) (hk : S.skipTo = .binary .chain l r cc) (l' r' : Rel)
    (Gl : Good I σ l') (Fl : FinishOK σ (.proj c) l l') (sl : l'.isSelect = true)
    (Gr : Good I σ r') (Fr : FinishOK σ (.proj c) r r') (sr : r'.isSelect = true) (r1 : Rel)
    (ha : applySkip (.binary .chain l' r' l'.columns) ({ S.slots with proj := none } : Slots) = .ok r1) :
    AppendOK σ (.proj c) S r1 ∧ SkipOK I σ S r1 := by
  have hwfk : (Rel.binary .chain l' r' l'.columns).WF :=
    ⟨Fl.wf, Fr.wf, rfl, fun t => (Fl.cols t).trans (Fr.cols t).symm⟩
  have hw : ({ S.slots with proj := none } : Slots).wfOn (Rel.binary .chain l' r' l'.columns).columns :=
    ⟨Cols.subset_mono hso fun t => (Fl.cols t).mpr, fun c1 hc1 => nomatch hc1⟩
  refine (applySkip_wrapped σ hwfk ⟨Fl.truthful, Fr.truthful⟩ hw (fun _ => rfl) ha).append ?_
    (fun x => Fl.cols x) (Fl.engine.trans (by rw [hS.engine, hk]; rfl))
    (fun _ _ => GoodSkip.chain Gl Gr sl sr hwfk)
  have hsem : sem σ (Rel.binary .chain l' r' l'.columns) = (sem σ S.skipTo).map (fun r => r.restrict c) := by
    rw [hk]
    simp only [sem, List.map_append]
    rw [Fl.sem_eq, Fr.sem_eq]
    rfl
  rw [hsem, slots_proj_pushed S.slots S.skipTo.columns _ c _ hd hso, hS.sem_eq]
  exact slots_proj S.slots S.skipTo.columns c _ hd hc

/-- `hpush`: what applying the projection to the branches of a UNION achieves (the recursive call of the
engine; discharged by the induction over the whole tree-building recursion). -/
theorem append_proj_sound (σ : Leaves) (st : Store) (fuel : Nat) (c : Cols) (S : Rel) (res : Res)
    (hS : SelOK σ S) (hop : (UOp.proj c).wfOn S.columns = true)
    (hpush : ∀ l r cc, S.skipTo = .binary .chain l r cc → ∀ x res', (x = l ∨ x = r) →
      applyOp st fuel (.u (.proj c)) x {} = .ok res' →
      Good I σ (res'.get x) ∧ FinishOK σ (.proj c) x (res'.get x) ∧ (res'.get x).isSelect = true)
    (h : appendUnarySel st (fuel+1) (.u (.proj c)) S = .ok res) :
    AppendOK σ (.proj c) S (res.get S) ∧ SkipOK I σ S (res.get S) := by
  rw [appendUnarySel] at h
  have hc : c.subset S.columns = true := by rwa [UOp.wfOn_proj] at hop
  dsimp only at h
  cases hd : S.slots.dedup with
  | true =>
    rw [if_pos hd] at h
    split at h
    · split at h
      · obtain ⟨r, ha, rfl⟩ := Except.bind_pure_eq_ok.mp h
        exact (hS.wrap (sl' := { proj := some c }) ⟨rfl, fun c1 hc1 => by cases hc1; exact hc⟩ ha).append
          rfl (fun _ => Iff.rfl) rfl GoodSkip.self
      · cases h
    · rename_i hso
      simp only [Bool.not_eq_true', Bool.not_eq_false] at hso
      exact proj_nest_sound σ S c hS hc hso res h
  | false =>
    rw [if_neg (Bool.eq_false_iff.mp hd)] at h
    have hcsl : ∀ t, t ∈ c → t ∈ S.slots.columns S.skipTo.columns :=
      fun t ht => (hS.cols t).mp (Cols.mem_of_subset hc ht)
    split at h
    · rename_i l r cc hk
      split at h
      · -- a UNION records no projection, so the sort columns are still there
        have hpn : S.slots.proj = none := hS.chainProj (by rw [hk]; rfl)
        exact proj_nest_sound σ S c hS hc
          (Cols.subset_mono hS.slotsWF.1 fun t ht => (hS.cols t).mpr (Slots.columns_none hpn _ ▸ ht)) res h
      · rename_i hso
        simp only [Bool.not_eq_true', Bool.not_eq_false] at hso
        obtain ⟨nl, hl, h⟩ := Except.bind_eq_ok.mp h
        obtain ⟨nr, hr, h⟩ := Except.bind_eq_ok.mp h
        obtain ⟨r1, ha, rfl⟩ := reapplySkip_kw_eq_ok h
        obtain ⟨Gl, Fl, sl⟩ := hpush l r cc hk l nl (Or.inl rfl) hl
        obtain ⟨Gr, Fr, sr⟩ := hpush l r cc hk r nr (Or.inr rfl) hr
        exact proj_push_sound σ S c hS hcsl hd hso l r cc hk _ _ Gl Fl sl Gr Fr sr r1 ha
    · rename_i hnk
      exact hS.reslot h ⟨hS.slotsWF.1, fun _ hc1 => by cases hc1; exact Cols.subset_mono hc hS.cols_sub⟩
        (fun hk => let ⟨l, r, cc, e⟩ := isChain_inv hk; (hnk l r cc e).elim)
        (slots_proj S.slots _ c _ hd hcsl) fun _ => Iff.rfl

/-- `hpush` as in `append_proj_sound`. -/
theorem appendUnarySel_sound (σ : Leaves) (st : Store) (fuel : Nat) (op : UOp) (S : Rel) (res : Res)
    (hS : SelOK σ S) (hop : op.wfOn S.columns = true)
    (hpush : ∀ c, op = .proj c → ∀ l r cc, S.skipTo = .binary .chain l r cc → ∀ x res', (x = l ∨ x = r) →
      applyOp st fuel (.u (.proj c)) x {} = .ok res' →
      Good I σ (res'.get x) ∧ FinishOK σ (.proj c) x (res'.get x) ∧ (res'.get x).isSelect = true)
    (h : appendUnarySel st (fuel+1) (.u op) S = .ok res) :
    AppendOK σ op S (res.get S) ∧ SkipOK I σ S (res.get S) := by
  cases op with
  | «calc» tag e => exact append_calc_sound σ st fuel tag e S res hS hop h
  | dedup => exact append_dedup_sound σ st fuel S res hS h
  | identity =>
    rw [appendUnarySel] at h
    injection h with h; subst h
    exact hS.same rfl fun _ => Iff.rfl
  | proj c => exact append_proj_sound σ st fuel c S res hS hop (hpush c rfl) h
  | sel p => exact append_sel_sound σ st fuel p S res hS hop h
  | slice a b => exact append_slice_sound σ st fuel a b S res hS h
  | sort ts => exact append_sort_sound σ st fuel ts S res hS hop h

end DafRel
