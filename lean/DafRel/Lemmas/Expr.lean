/-
Expressions and predicates: both evaluators depend on the row only through the required columns (`_congr`), and
the checked evaluators (`eval`, what the engine's callables do) agree with the specification semantics (`val`)
whenever the arities are right and the row has all required columns: no exception, same value (`_eq_val`), so the
short-circuit of `all()` / `any()` is invisible then.  Expressions that `Expr.beq` identifies have the same value.
Without any hypothesis, a checked evaluator that returns at all returns the specification value (`_sound`).
-/
import DafRel.Model.Expr
import DafRel.Lemmas.Base

namespace DafRel

theorem Expr.valList_eq_map (r : Row) (es : List Expr) : Expr.valList r es = es.map (Expr.val r) := by
  induction es with
  | nil => rfl
  | cons e es ih => rw [Expr.valList, ih, List.map_cons]

mutual
theorem Expr.val_congr (r1 r2 : Row) (e : Expr) (h : ∀ t, t ∈ e.columnsRequired → r1 t = r2 t) :
    e.val r1 = e.val r2 := by
  cases e with
  | lit _ => rfl
  | ref t => rw [Expr.val, Expr.val, Row.getD0, Row.getD0, h t (List.mem_singleton.mpr rfl)]
  | fn f args _ => simp only [Expr.val, Expr.valList_congr r1 r2 args h]
theorem Expr.valList_congr (r1 r2 : Row) (es : List Expr)
    (h : ∀ t, t ∈ Expr.columnsRequiredList es → r1 t = r2 t) : Expr.valList r1 es = Expr.valList r2 es := by
  cases es with
  | nil => rfl
  | cons e es =>
    have h := List.forall_mem_append.mp h
    simp only [Expr.valList, Expr.val_congr r1 r2 e h.1, Expr.valList_congr r1 r2 es h.2]
end

mutual
theorem Expr.eval_congr (r1 r2 : Row) (e : Expr) (h : ∀ t, t ∈ e.columnsRequired → r1 t = r2 t) :
    e.eval r1 = e.eval r2 := by
  cases e with
  | lit _ => rfl
  | ref t => exact h t (List.mem_singleton.mpr rfl)
  | fn f args _ => simp only [Expr.eval, Expr.evalList_congr r1 r2 args h]
theorem Expr.evalList_congr (r1 r2 : Row) (es : List Expr)
    (h : ∀ t, t ∈ Expr.columnsRequiredList es → r1 t = r2 t) : Expr.evalList r1 es = Expr.evalList r2 es := by
  cases es with
  | nil => rfl
  | cons e es =>
    have h := List.forall_mem_append.mp h
    simp only [Expr.evalList, Expr.eval_congr r1 r2 e h.1, Expr.evalList_congr r1 r2 es h.2]
end

theorem Container.valContains_congr (r1 r2 : Row) (x : Int) (c : Container)
    (h : ∀ t, t ∈ c.columnsRequired → r1 t = r2 t) : c.valContains r1 x = c.valContains r2 x := by
  cases c with
  | range a b s => rfl
  | seq items => rw [Container.valContains, Container.valContains, Expr.valList_congr r1 r2 items h]

theorem Container.evalContains_congr (r1 r2 : Row) (x : Int) (c : Container)
    (h : ∀ t, t ∈ c.columnsRequired → r1 t = r2 t) : c.evalContains r1 x = c.evalContains r2 x := by
  cases c with
  | range a b s => rfl
  | seq items => rw [Container.evalContains, Container.evalContains, Expr.evalList_congr r1 r2 items h]

/-- Induction over `Pred` is by the recursor of the nested inductive type; its second motive speaks of the operand
lists and states the AND and the OR fact together (`valAll` and `valAny` differ by `&&` / `||` only), so the list
statements are the `.and ps` / `.or ps` instances.  In the list cases the tactic has already introduced the motive's
hypotheses, hence `next h =>`.  `Pred.eval_congr`, `Pred.eval_eq_val` and `Pred.eval_sound` follow the same scheme;
the `Expr` lemmas are `mutual` blocks instead, `Expr` having one list function per evaluator. -/
theorem Pred.val_congr (r1 r2 : Row) (p : Pred) :
    (∀ t, t ∈ p.columnsRequired → r1 t = r2 t) → p.val r1 = p.val r2 := by
  intro h
  induction p using Pred.rec (motive_2 := fun ps => (∀ t, t ∈ Pred.columnsRequiredList ps → r1 t = r2 t) →
    Pred.valAll r1 ps = Pred.valAll r2 ps ∧ Pred.valAny r1 ps = Pred.valAny r2 ps) with
  | lit _ => rfl
  | ref t => rw [Pred.val, Pred.val, Row.getD0, Row.getD0, h t (List.mem_singleton.mpr rfl)]
  | fn f args _ => simp only [Pred.val, Expr.valList_congr r1 r2 args h]
  | not p ih => simp only [Pred.val, ih h]
  | and ps ih => exact (ih h).1
  | or ps ih => exact (ih h).2
  | inC item c =>
    have h := List.forall_mem_append.mp h
    simp only [Pred.val, Expr.val_congr r1 r2 item h.1, Container.valContains_congr r1 r2 _ c h.2]
  | nil => exact ⟨rfl, rfl⟩
  | cons p ps ihp ihps =>
    next h =>
    have h := List.forall_mem_append.mp h
    simp only [Pred.valAll, Pred.valAny, ihp h.1, (ihps h.2).1, (ihps h.2).2, and_self]

theorem Pred.valAll_congr (r1 r2 : Row) :
    (ps : List Pred) → (∀ t, t ∈ Pred.columnsRequiredList ps → r1 t = r2 t) →
      Pred.valAll r1 ps = Pred.valAll r2 ps :=
  fun ps => Pred.val_congr r1 r2 (.and ps)

theorem Pred.valAny_congr (r1 r2 : Row) :
    (ps : List Pred) → (∀ t, t ∈ Pred.columnsRequiredList ps → r1 t = r2 t) →
      Pred.valAny r1 ps = Pred.valAny r2 ps :=
  fun ps => Pred.val_congr r1 r2 (.or ps)

theorem Pred.eval_congr (r1 r2 : Row) :
    (p : Pred) → (∀ t, t ∈ p.columnsRequired → r1 t = r2 t) → p.eval r1 = p.eval r2 := by
  intro p h
  induction p using Pred.rec (motive_2 := fun ps => (∀ t, t ∈ Pred.columnsRequiredList ps → r1 t = r2 t) →
    Pred.evalAll r1 ps = Pred.evalAll r2 ps ∧ Pred.evalAny r1 ps = Pred.evalAny r2 ps) with
  | lit _ => rfl
  | ref t => simp only [Pred.eval, h t (List.mem_singleton.mpr rfl)]
  | fn f args _ => simp only [Pred.eval, Expr.evalList_congr r1 r2 args h]
  | not p ih => simp only [Pred.eval, ih h]
  | and ps ih => exact (ih h).1
  | or ps ih => exact (ih h).2
  | inC item c =>
    have h := List.forall_mem_append.mp h
    simp only [Pred.eval, Expr.eval_congr r1 r2 item h.1, Container.evalContains_congr r1 r2 _ c h.2]
  | nil => exact ⟨rfl, rfl⟩
  | cons p ps ihp ihps =>
    next h =>
    have h := List.forall_mem_append.mp h
    simp only [Pred.evalAll, Pred.evalAny, ihp h.1, (ihps h.2).1, (ihps h.2).2, and_self]

theorem Pred.evalAll_congr (r1 r2 : Row) :
    (ps : List Pred) → (∀ t, t ∈ Pred.columnsRequiredList ps → r1 t = r2 t) →
      Pred.evalAll r1 ps = Pred.evalAll r2 ps :=
  fun ps => Pred.eval_congr r1 r2 (.and ps)

theorem Pred.evalAny_congr (r1 r2 : Row) :
    (ps : List Pred) → (∀ t, t ∈ Pred.columnsRequiredList ps → r1 t = r2 t) →
      Pred.evalAny r1 ps = Pred.evalAny r2 ps :=
  fun ps => Pred.eval_congr r1 r2 (.or ps)

theorem Row.restrict_of_mem (r : Row) (c : Cols) : ∀ t, t ∈ c → (r.restrict c) t = r t := by
  intro t ht
  simp [Row.restrict, ht]

theorem Expr.val_set (e : Expr) (r : Row) (tag : Tag) (v : Int) (h : tag ∉ e.columnsRequired) :
    e.val (r.set tag v) = e.val r :=
  Expr.val_congr _ _ e fun t ht => by simp [Row.set, show t ≠ tag from fun he => h (he ▸ ht)]

theorem Pred.val_set (p : Pred) (r : Row) (tag : Tag) (v : Int) (h : tag ∉ p.columnsRequired) :
    p.val (r.set tag v) = p.val r :=
  Pred.val_congr _ _ p fun t ht => by simp [Row.set, show t ≠ tag from fun he => h (he ▸ ht)]

theorem Expr.val_restrict (e : Expr) (r : Row) (c : Cols) (h : e.columnsRequired.subset c = true) :
    e.val (r.restrict c) = e.val r :=
  Expr.val_congr _ _ e fun t ht => Row.restrict_of_mem r c t (Cols.mem_of_subset h ht)

theorem Pred.val_restrict (p : Pred) (r : Row) (c : Cols) (h : p.columnsRequired.subset c = true) :
    p.val (r.restrict c) = p.val r :=
  Pred.val_congr _ _ p fun t ht => Row.restrict_of_mem r c t (Cols.mem_of_subset h ht)

mutual
theorem Expr.beq_val (r : Row) (a b : Expr) (h : Expr.beq a b = true) : a.val r = b.val r := by
  -- on two different constructors `Expr.beq` is `false`, which closes six of the nine cases
  cases a <;> cases b <;> simp only [Expr.beq, Bool.and_eq_true, beq_iff_eq, Bool.false_eq_true] at h
  · rw [h]
  · rw [h]
  · next f as _ g bs _ => simp only [Expr.val, h.1, Expr.beqList_val r as bs h.2]
theorem Expr.beqList_val (r : Row) : (as bs : List Expr) → Expr.beqList as bs = true →
    Expr.valList r as = Expr.valList r bs := by
  intro as bs h
  cases as <;> cases bs <;> simp only [Expr.beqList, Bool.and_eq_true, Bool.false_eq_true] at h
  · rfl
  · next a as b bs => simp only [Expr.valList, Expr.beq_val r a b h.1, Expr.beqList_val r as bs h.2]
end

/-- One half of `RowHasCols r c` (`Spec/Preds.lean`): the columns of `c` are present. -/
def Row.hasAll (r : Row) (c : Cols) : Prop := ∀ t, t ∈ c → (r t).isSome = true

theorem List.eq_pair_of_length {α : Type} : (l : List α) → l.length = 2 → ∃ a b, l = [a, b]
  | [a, b], _ => ⟨a, b, rfl⟩

theorem Fn.apply_some_of_arity (f : Fn) (vs : List Int) (h : vs.length = f.arity) :
    ∃ v, f.apply vs = some v := by
  cases f with
  | neg | other n => obtain ⟨a, rfl⟩ := List.length_eq_one_iff.mp h; exact ⟨_, rfl⟩
  | _ => obtain ⟨a, b, rfl⟩ := List.eq_pair_of_length vs h; exact ⟨_, rfl⟩

theorem PFn.apply_some_of_arity (f : PFn) (vs : List Int) (h : vs.length = f.arity) :
    ∃ v, f.apply vs = some v := by
  cases f with
  | other n => obtain ⟨a, rfl⟩ := List.length_eq_one_iff.mp h; exact ⟨_, rfl⟩
  | _ => obtain ⟨a, b, rfl⟩ := List.eq_pair_of_length vs h; exact ⟨_, rfl⟩

theorem Expr.valList_length (r : Row) (es : List Expr) : (Expr.valList r es).length = es.length := by
  rw [Expr.valList_eq_map, List.length_map]

theorem Row.hasAll.get {r : Row} {t : Tag} (h : r.hasAll [t]) : r t = some (r.getD0 t) := by
  obtain ⟨v, hv⟩ := Option.isSome_iff_exists.mp (h t (List.mem_singleton.mpr rfl))
  rw [Row.getD0, hv]; rfl

mutual
theorem Expr.eval_eq_val (r : Row) (e : Expr) (ha : e.arityOk = true) (h : r.hasAll e.columnsRequired) :
    e.eval r = some (e.val r) := by
  cases e with
  | lit _ => rfl
  | ref t => exact h.get
  | fn f args _ =>
    simp only [Expr.arityOk, Bool.and_eq_true, beq_iff_eq] at ha
    obtain ⟨v, hv⟩ := Fn.apply_some_of_arity f (Expr.valList r args) (by rw [Expr.valList_length, ha.1])
    simp only [Expr.eval, Expr.evalList_eq_valList r args ha.2 h, Expr.val, hv, Option.getD_some]
theorem Expr.evalList_eq_valList (r : Row) (es : List Expr) (ha : Expr.arityOkList es = true)
    (h : r.hasAll (Expr.columnsRequiredList es)) : Expr.evalList r es = some (Expr.valList r es) := by
  cases es with
  | nil => rfl
  | cons e es =>
    simp only [Expr.arityOkList, Bool.and_eq_true] at ha
    have h := List.forall_mem_append.mp h
    simp only [Expr.evalList, Expr.eval_eq_val r e ha.1 h.1, Expr.evalList_eq_valList r es ha.2 h.2, Expr.valList]
end

theorem Container.evalContains_eq_val (r : Row) (x : Int) (c : Container) (ha : c.arityOk = true)
    (h : r.hasAll c.columnsRequired) : c.evalContains r x = some (c.valContains r x) := by
  cases c with
  | range a b s => rfl
  | seq items => rw [Container.evalContains, Expr.evalList_eq_valList r items ha h]; rfl

theorem Pred.eval_eq_val (r : Row) : (p : Pred) → p.arityOk = true → r.hasAll p.columnsRequired →
    p.eval r = some (p.val r) := by
  intro p ha h
  induction p using Pred.rec (motive_2 := fun ps => Pred.arityOkList ps = true →
    r.hasAll (Pred.columnsRequiredList ps) →
      Pred.evalAll r ps = some (Pred.valAll r ps) ∧ Pred.evalAny r ps = some (Pred.valAny r ps)) with
  | lit _ => rfl
  | ref t => rw [Pred.eval, h.get]; rfl
  | fn f args _ =>
    simp only [Pred.arityOk, Bool.and_eq_true, beq_iff_eq] at ha
    obtain ⟨v, hv⟩ := PFn.apply_some_of_arity f (Expr.valList r args) (by rw [Expr.valList_length, ha.1])
    simp only [Pred.eval, Expr.evalList_eq_valList r args ha.2 h, Pred.val, hv, Option.getD_some]
  | not p ih => simp only [Pred.eval, ih ha h, Pred.val, Option.map_some]
  | and ps ih => exact (ih ha h).1
  | or ps ih => exact (ih ha h).2
  | inC item c =>
    simp only [Pred.arityOk, Bool.and_eq_true] at ha
    have h := List.forall_mem_append.mp h
    simp only [Pred.eval, Expr.eval_eq_val r item ha.1 h.1, Pred.val]
    exact Container.evalContains_eq_val r _ c ha.2 h.2
  | nil => exact ⟨rfl, rfl⟩
  | cons p ps ihp ihps =>
    next ha h =>
    simp only [Pred.arityOkList, Bool.and_eq_true] at ha
    have h := List.forall_mem_append.mp h
    simp only [Pred.evalAll, Pred.evalAny, ihp ha.1 h.1, (ihps ha.2 h.2).1, (ihps ha.2 h.2).2, Pred.valAll, Pred.valAny]
    cases Pred.val r p <;> exact ⟨rfl, rfl⟩

theorem Pred.evalAll_eq_valAll (r : Row) : (ps : List Pred) → Pred.arityOkList ps = true →
    r.hasAll (Pred.columnsRequiredList ps) → Pred.evalAll r ps = some (Pred.valAll r ps) :=
  fun ps => Pred.eval_eq_val r (.and ps)

theorem Pred.evalAny_eq_valAny (r : Row) : (ps : List Pred) → Pred.arityOkList ps = true →
    r.hasAll (Pred.columnsRequiredList ps) → Pred.evalAny r ps = some (Pred.valAny r ps) :=
  fun ps => Pred.eval_eq_val r (.or ps)

mutual
theorem Expr.eval_sound (r : Row) (e : Expr) (v : Int) (h : e.eval r = some v) : e.val r = v := by
  cases e with
  | lit _ => exact Option.some.inj h
  | ref t => rw [Expr.val, Row.getD0, show r t = some v from h]; rfl
  | fn f args _ =>
    rw [Expr.eval] at h
    split at h
    · cases h
    · next vs hvs => rw [Expr.val, Expr.evalList_sound r args vs hvs, h]; rfl
theorem Expr.evalList_sound (r : Row) (es : List Expr) (vs : List Int) (h : Expr.evalList r es = some vs) :
    Expr.valList r es = vs := by
  cases es with
  | nil => exact Option.some.inj h
  | cons e es =>
    rw [Expr.evalList] at h
    split at h
    · cases h
    · next v hv =>
      split at h
      · cases h
      · next ws hws =>
        rw [Expr.valList, Expr.eval_sound r e v hv, Expr.evalList_sound r es ws hws]
        exact Option.some.inj h
end

/-! The model's `match … with | none => none | some v => …` as `Option.bind` / `map`, for `Option.bind_eq_some_iff`. -/

theorem Pred.eval_fn (r : Row) (f : PFn) (args : List Expr) (s : Option EngineKind) :
    Pred.eval r (.fn f args s) = (Expr.evalList r args).bind f.apply := by
  rw [Pred.eval]; cases Expr.evalList r args <;> rfl

theorem Pred.eval_inC (r : Row) (item : Expr) (c : Container) :
    Pred.eval r (.inC item c) = (Expr.eval r item).bind (c.evalContains r) := by
  rw [Pred.eval]; cases Expr.eval r item <;> rfl

theorem Container.evalContains_seq (r : Row) (x : Int) (items : List Expr) :
    (Container.seq items).evalContains r x = (Expr.evalList r items).map (·.contains x) := by
  rw [Container.evalContains]; cases Expr.evalList r items <;> rfl

theorem Container.evalContains_sound (r : Row) (x : Int) (c : Container) (b : Bool)
    (h : c.evalContains r x = some b) : c.valContains r x = b := by
  cases c with
  | range _ _ _ => exact Option.some.inj h
  | seq items =>
    obtain ⟨vs, hvs, rfl⟩ := Option.map_eq_some_iff.mp (Container.evalContains_seq .. ▸ h)
    rw [Container.valContains, Expr.evalList_sound r items vs hvs]

theorem Pred.eval_sound (r : Row) (p : Pred) : ∀ v, p.eval r = some v → p.val r = v := by
  induction p using Pred.rec (motive_2 := fun ps => ∀ v,
    (Pred.evalAll r ps = some v → Pred.valAll r ps = v) ∧ (Pred.evalAny r ps = some v → Pred.valAny r ps = v)) with
  | lit _ => exact fun _ => Option.some.inj
  | ref t =>
    intro v h
    obtain ⟨x, hx, rfl⟩ := Option.map_eq_some_iff.mp (show (r t).map _ = some v from h)
    rw [Pred.val, Row.getD0, hx]; rfl
  | fn f args _ =>
    intro v h
    obtain ⟨vs, hvs, hf⟩ := Option.bind_eq_some_iff.mp (Pred.eval_fn .. ▸ h)
    rw [Pred.val, Expr.evalList_sound r args vs hvs, hf]; rfl
  | not p ih =>
    intro v h
    obtain ⟨x, hx, rfl⟩ := Option.map_eq_some_iff.mp (show (p.eval r).map _ = some v from h)
    rw [Pred.val, ih x hx]
  | and ps ih => exact fun v => (ih v).1
  | or ps ih => exact fun v => (ih v).2
  | inC item c =>
    intro v h
    obtain ⟨x, hx, hc⟩ := Option.bind_eq_some_iff.mp (Pred.eval_inC .. ▸ h)
    rw [Pred.val, Expr.eval_sound r item x hx, Container.evalContains_sound r x c v hc]
  | nil => exact ⟨Option.some.inj, Option.some.inj⟩
  | cons p ps ihp ihps =>
    next v =>
    rw [Pred.evalAll, Pred.evalAny, Pred.valAll, Pred.valAny]
    cases hp : p.eval r with
    | none => exact ⟨nofun, nofun⟩
    | some b =>
      rw [ihp b hp]
      cases b
      · exact ⟨Option.some.inj, (ihps v).2⟩
      · exact ⟨(ihps v).1, Option.some.inj⟩

theorem Pred.evalAll_sound (r : Row) (ps : List Pred) : ∀ v, Pred.evalAll r ps = some v → Pred.valAll r ps = v :=
  Pred.eval_sound r (.and ps)

theorem Pred.evalAny_sound (r : Row) (ps : List Pred) : ∀ v, Pred.evalAny r ps = some v → Pred.valAny r ps = v :=
  Pred.eval_sound r (.or ps)

end DafRel
