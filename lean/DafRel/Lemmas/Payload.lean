/-
What every successful `execute` call of the iteration engine does to the payload store and the ghost evaluation
log (C10) and to the leaf-iteration log (C18).  Nothing here needs the tree to be well-formed.
-/
import DafRel.Lemmas.Exec

namespace DafRel

theorem EvalsOK.mono {s s' : ExecState} (h : EvalsOK s) (hm : PayMono s s') (he : s'.evals = s.evals) :
    EvalsOK s' :=
  ⟨he ▸ h.1, fun o ho => hm o (h.2 o (he ▸ ho))⟩

theorem EvalsOK.cons {s : ExecState} (h : EvalsOK s) {oid : Nat} (hfree : s.payload oid = none) (it : Iterable) :
    EvalsOK { s with payloads := (oid, it) :: s.payloads, evals := oid :: s.evals } := by
  refine ⟨List.nodup_cons.mpr ⟨fun hm => Option.not_isSome_iff_eq_none.mpr hfree (h.2 oid hm), h.1⟩, fun o ho => ?_⟩
  rcases List.mem_cons.mp ho with rfl | ho
  · exact (congrArg Option.isSome (ExecState.payload_cons s o it o)).trans (by rw [if_pos rfl]; rfl)
  · exact PayMono.cons s oid it _ o (h.2 o ho)

theorem attachTarget_inv {hasPay : Nat → Bool} {r : Rel} {oid : Nat} (h : attachTarget hasPay r = .ok oid) :
    hasPay oid = false := by
  revert h
  -- `attachTarget`: 1/2 a Materialization, 3/4 a Transfer, 5/6 a Select that holds a payload/none, 7 any other node
  fun_cases attachTarget hasPay r with
  | case1 | case3 | case5 | case7 => exact nofun
  | case2 _ _ _ hn | case4 _ _ _ hn | case6 _ _ _ _ _ _ _ _ _ hn =>
    intro h; cases h; exact Bool.eq_false_iff.mpr hn

/-- C10 for one call: no payload is replaced or cleared, payloads appear only on materializations of the executed
tree, and no materialization's upstream tree is evaluated a second time. -/
theorem exec_frame (σ : Leaves) :
    (r : Rel) → (self : Engine) → (s : ExecState) → (it : Iterable) → (s' : ExecState) →
    r.Acyclic → exec σ self r s = .ok (it, s') → ExecFrame r s s' := by
  intro r self s it s' hac h
  -- the two store fields are `exec_pay`; what is left is the evaluation log, by induction over the run
  obtain ⟨keep, new⟩ := exec_pay σ r self s it s' h
  suffices (EvalsOK s → EvalsOK s') ∧ ∃ n, s'.evals = n ++ s.evals from ⟨keep, new, this.1, this.2⟩
  refine exec_ok_ind σ (motive := fun _ r s _ s' => r.Acyclic →
      (EvalsOK s → EvalsOK s') ∧ ∃ n, s'.evals = n ++ s.evals)
    (short := fun _ _ => ⟨id, [], rfl⟩)
    (unary := fun _ ih hop hac =>
      have ⟨g1, g2⟩ := execOp_frame hop
      have ⟨ok, n, e⟩ := ih hac
      ⟨fun h => (ok h).mono (.of_payloads_eq g1) g2, n, g2.trans e⟩)
    (chain := fun _ ihl _ ihr hac =>
      have ⟨ok1, n1, e1⟩ := ihl hac.1
      have ⟨ok2, n2, e2⟩ := ihr hac.2
      ⟨ok2 ∘ ok1, n2 ++ n1, by rw [e2, e1, List.append_assoc]⟩)
    (mat := ?_) (transfer := fun _ ih => ih) (select := fun _ ih => ih) r self s it s' h hac
  intro _ s oid name t inner s1 res s2 hnone ht ih hm hac
  obtain ⟨m1, m2, _⟩ := materializedIt_frame hm
  obtain ⟨ok, n, e⟩ := ih hac.2
  -- executing the target attached nothing at `oid`: it held nothing before and is no materialization of `t`
  have hfree : s2.payload oid = none :=
    (ExecState.payload_congr m1 oid).trans ((exec_pay σ t _ s inner s1 ht).2.none_of hnone hac.1)
  exact ⟨fun h => ((ok h).mono (.of_payloads_eq m1) m2).cons hfree res, oid :: n, congrArg _ (m2.trans e)⟩

theorem events_sublist (σ : Leaves) : (it : Iterable) → (d : Option Nat) →
    (it.events σ d).Sublist it.leafOccs := by
  intro it d
  fun_induction Iterable.events σ it d with
  | case1 | case2 | case3 => exact .refl _                    -- stored rows; a leaf payload
  | case4 _ _ _ _ ih | case5 _ _ _ ih | case6 _ _ _ _ _ ih | case8 _ _ _ _ _ _ _ _ _ ih =>
    exact ih                                                  -- calc, proj, sel, slice: what their source starts
  | case7 | case9 => exact List.nil_sublist _                 -- slice, chain of which nothing is taken
  | case10 _ _ _ iha ihb | case12 _ _ _ _ _ _ iha ihb => exact iha.append ihb   -- chain read into its second part
  | case11 _ _ _ _ _ _ iha => exact iha.trans (List.sublist_append_left _ _)    -- chain left within its first part

theorem stored_no_events (σ : Leaves) (it : Iterable) (h : it.isStored = true) (d : Option Nat) :
    it.events σ d = [] := by
  revert h
  fun_cases Iterable.isStored it with
  | case1 | case2 => exact fun _ => rfl
  | case3 => exact nofun

theorem sliced_leafOccs (σ : Leaves) (it : Iterable) (a : Nat) (b : Option Nat) :
    (sliced σ it a b).leafOccs.Sublist it.leafOccs := by
  fun_cases sliced σ it a b with
  | case1 | case2 => exact List.nil_sublist _
  | case3 => exact List.Sublist.refl _

theorem execOp_lazy {σ : Leaves} {op : UOp} {cols : Cols} {tr : Iterable} {s : ExecState}
    {it : Iterable} {s' : ExecState} (hl : op.isLazy = true) (h : execOp σ op cols tr s = .ok (it, s')) :
    s' = s ∧ it.leafOccs.Sublist tr.leafOccs := by
  cases op with
  | identity | dedup | sort ts => cases hl
  | «calc» tag e | proj c | sel p => cases h; exact ⟨rfl, List.Sublist.refl _⟩
  | slice a b => cases h; exact ⟨rfl, sliced_leafOccs σ tr a b⟩

theorem exec_lazy (σ : Leaves) :
    (r : Rel) → (self : Engine) → (s : ExecState) → (it : Iterable) → (s' : ExecState) →
    r.LazyOnly → exec σ self r s = .ok (it, s') → s' = s ∧ it.leafOccs.Sublist r.leafOccs := by
  intro r self s it s' hl h
  refine exec_ok_ind σ (motive := fun _ r s it s' => r.LazyOnly → s' = s ∧ it.leafOccs.Sublist r.leafOccs)
    (short := ?_)
    (unary := fun _ ih hop hl =>
      have ⟨e1, e2⟩ := ih hl.1
      have ⟨g1, g2⟩ := execOp_lazy hl.2 hop
      ⟨g1.trans e1, g2.trans e2⟩)
    (chain := fun _ ihl _ ihr hl =>
      have ⟨e1, e2⟩ := ihl hl.1
      have ⟨g1, g2⟩ := ihr hl.2.1
      ⟨g1.trans e1, e2.append g2⟩)
    (mat := fun _ _ _ _ hl => hl.elim) (transfer := fun _ _ hl => hl.elim) (select := fun _ _ hl => hl.elim)
    r self s it s' h hl
  intro _ r s it h3 hl
  refine ⟨rfl, ?_⟩
  rcases h3 with rfl | rfl | h3
  · exact List.nil_sublist _
  · exact List.nil_sublist _
  · -- a lazy-only tree has no marker node, so a cached payload is a leaf's own
    cases r with
    | leaf oid eng cols name mn mx pl msgs => cases pl <;> cases h3; exact List.Sublist.refl _
    | unary | binary => cases h3
    | mat | transfer | select => exact hl.elim

end DafRel
