/-
The Processor on a tree inside ONE iteration engine (`process_plain_iter`): nothing is rebuilt, every materialization
receives a payload holding exactly the rows of the direct evaluation of its target, and the payload store stays right
(`StoreOK`) - so a subsequent `execute` returns the direct rows (`exec_correct`).  The vocabulary is that of the
iteration engine's proofs: the registry `reg` of marker contents with `Rel.RegOK` and `StoreOK` (Spec/Preds.lean),
`Rel.IterOKs` and the frame relations `PayMono`, `PayNew`, `PayKeep` between payload stores (Lemmas/Exec.lean).
-/
import DafRel.Lemmas.ProcBasics
import DafRel.Lemmas.Exec

namespace DafRel

/-- Where the database side holds nothing for the relation, the Processor's `payload` attribute is the one `execute`
looks up. -/
theorem payloadOf_eq_payloadIt (s : ProcState) (r : Rel) (h : s.sq.payload r.oid = none) :
    s.payloadOf r = (r.payloadIt s.st).map AnyPayload.iter := by
  cases r with
  | leaf oid _ _ _ _ _ p _ =>
    simp only [Rel.oid] at h
    simp only [ProcState.payloadOf, Rel.payloadIt, h]
    cases p <;> rfl
  | unary | binary => rfl
  | mat oid | transfer oid | select oid =>
    simp only [Rel.oid] at h
    simp only [ProcState.payloadOf, Rel.payloadIt, Rel.oid, h, Option.map_none]
    cases s.st.payload oid <;> rfl

theorem payloadOf_rows {σ : Leaves} {reg : Nat → Option (List Row)} {s : ProcState} {r : Rel} {p : AnyPayload}
    (hs : StoreOK σ reg s.st) (h : s.payloadOf r = some p) (hreg : r.RegOK σ reg) (hq : s.sq.payload r.oid = none) :
    ∃ it, p = .iter it ∧ ItOK it ∧ it.rows σ = .ok (sem σ r) := by
  rw [payloadOf_eq_payloadIt s r hq] at h
  obtain ⟨it, hp, rfl⟩ := Option.map_eq_some_iff.mp h
  obtain ⟨h1, h2⟩ := payloadIt_correct σ reg r s.st hreg hs it hp
  exact ⟨it, rfl, h2, h1⟩

theorem payloadOf_mat_free (s : ProcState) (oid : Nat) (n : String) (t : Rel) (h : s.sq.payload oid = none) :
    (s.payloadOf (.mat oid n t)).isSome = (s.st.payload oid).isSome := by
  rw [payloadOf_eq_payloadIt s (.mat oid n t) h]
  exact Option.isSome_map

theorem payloadOf_transfer_free (s : ProcState) (oid : Nat) (d : Engine) (t : Rel) (h : s.sq.payload oid = none) :
    (s.payloadOf (.transfer oid d t)).isSome = (s.st.payload oid).isSome := by
  rw [payloadOf_eq_payloadIt s (.transfer oid d t) h]
  exact Option.isSome_map

theorem payloadOf_mat_none {s : ProcState} {oid : Nat} {n : String} {t : Rel}
    (h : (s.payloadOf (.mat oid n t)).isSome = false) : s.st.payload oid = none := by
  cases hp : s.st.payload oid with
  | none => rfl
  | some it => simp [ProcState.payloadOf, Rel.oid, hp] at h

theorem attach_payload (s : ProcState) (o : Nat) (it : Iterable) (o' : Nat) :
    (s.attach o (.iter it)).st.payload o' = if o = o' then some it else s.st.payload o' :=
  ExecState.payload_cons s.st o it o'

theorem attach_isSome (s : ProcState) (o : Nat) (it : Iterable) :
    ((s.attach o (.iter it)).st.payload o).isSome = true := by
  rw [attach_payload, if_pos rfl]
  rfl

theorem payloadOf_mat_attach (s : ProcState) (o : Nat) (n : String) (t : Rel) (it : Iterable) :
    ((s.attach o (.iter it)).payloadOf (.mat o n t)).isSome = true := by
  simp [ProcState.payloadOf, Rel.oid, attach_payload]

theorem payloadOf_transfer_attach (s : ProcState) (o : Nat) (d : Engine) (t : Rel) (it : Iterable) :
    ((s.attach o (.iter it)).payloadOf (.transfer o d t)).isSome = true := by
  simp [ProcState.payloadOf, Rel.oid, attach_payload]

theorem sqFree_oid (sq : SqlState) : (r : Rel) → r.sqFree sq → r.procFlag = true → sq.payload r.oid = none := by
  intro r h hf
  cases r with
  | leaf => exact h
  | mat | transfer | select => exact h.1
  | unary | binary => cases hf

theorem wrapRows_iter (e : Engine) (cols : Cols) (rows : List Row) (tag : String) (s : ProcState)
    (hk : e.kind = .iter) : (wrapRows e cols rows tag).run.run s = (.ok (.iter (.seq rows)), s) := by
  unfold wrapRows
  rw [hk]
  rfl

theorem evalSingle_iter (σ : Leaves) (reg : Nat → Option (List Row)) (t : Rel) (s : ProcState)
    (hk : t.engine.kind = .iter) (hio : t.IterOKs s.st) (hwf : t.WF) (htr : t.Truthful σ)
    (hkd : keyDetermined σ t = true) (hreg : t.RegOK σ reg) (hs : StoreOK σ reg s.st) :
    ∃ s', (evalSingle σ t).run.run s = (.ok (sem σ t), s') ∧ StoreOK σ reg s'.st ∧ s'.sq = s.sq ∧
      s'.nextTemp = s.nextTemp ∧ PayMono s.st s'.st ∧ PayNew t s.st s'.st ∧ PayKeep s.st s'.st := by
  have hm0 : PayMono s.st { s.st with log := [] } := PayMono.of_payloads_eq rfl
  obtain ⟨it, st', h1, h2, _, h3⟩ := exec_correctS σ reg t t.engine { s.st with log := [] }
    (Rel.IterOKs.mono hm0 t hio) hwf htr hkd hreg (hs.of_payloads_eq rfl) rfl
  obtain ⟨hkeep, hnew⟩ := exec_pay σ t t.engine _ it st' h1
  refine ⟨{ s with st := { st' with log := [] }, det := s.det && iterOrderFree σ t }, ?_, h3.of_payloads_eq rfl, rfl, rfl,
    hkeep.mono, hnew, hkeep⟩
  unfold evalSingle
  simp only [run_bind, run_get, bindRun_ok, hk, h1, h2]
  rfl

theorem evalSingle_sql_inv (σ : Leaves) (r : Rel) (s s1 : ProcState) (rows : List Row) (hk : r.engine.kind = .sql)
    (h : (evalSingle σ r).run.run s = (.ok rows, s1)) :
    ∃ c q c1, conform s.store defaultFuel r = .ok c ∧ compileSelect s.sq defaultFuel (c.get r) 0 = .ok (q, c1) ∧
      q.hasDup = false ∧ rows = (Query.eval s.sq.tables q).rows ∧ s1.st = s.st ∧ s1.sq = s.sq ∧
      s1.nextTemp = s.nextTemp := by
  unfold evalSingle at h
  simp only [run_bind, run_get, bindRun_ok, hk] at h
  split at h
  · cases h
  · next c hc =>
    split at h
    · cases h
    · next q c1 hq =>
      split at h
      · cases h
      · next hd =>
        split at h
        · cases h
        · simp only [run_bind, run_pure, bindRun_ok] at h
          cases h
          exact ⟨c, q, c1, hc, hq, Bool.eq_false_iff.mpr hd, rfl, rfl, rfl, rfl⟩

theorem hookMaterialize_iter (σ : Leaves) (reg : Nat → Option (List Row)) (t : Rel) (name : String) (s : ProcState)
    (hk : t.engine.kind = .iter) (hio : t.IterOKs s.st) (hwf : t.WF) (htr : t.Truthful σ) (hkd : keyDetermined σ t = true)
    (hreg : t.RegOK σ reg) (hs : StoreOK σ reg s.st) :
    ∃ s', (hookMaterialize σ t name).run.run s = (.ok (.iter (.seq (sem σ t))), s') ∧ StoreOK σ reg s'.st ∧
      s'.sq = s.sq ∧ s'.nextTemp = s.nextTemp ∧ PayMono s.st s'.st ∧ PayNew t s.st s'.st ∧ PayKeep s.st s'.st := by
  obtain ⟨s', he, P⟩ := evalSingle_iter σ reg t
    { s with hooks := s.hooks ++ [s!"<materialize {t.show (showPay s)} {name} triv={showBool t.isTrivial}>"] }
    hk hio hwf htr hkd hreg hs
  refine ⟨s', ?_, P⟩
  unfold hookMaterialize
  rw [run_bind, run_modify, bindRun_ok, run_bind, he, bindRun_ok, wrapRows_iter _ _ _ _ _ hk]

theorem payloadThrough_some (s : ProcState) (p : AnyPayload) (t : Rel) (h : s.payloadOf t = some p) :
    payloadThrough s t = some p := by
  cases t with
  | mat | transfer | select =>
    unfold payloadThrough
    simp only [h]
  | _ => exact h

theorem payloadThrough_isSome (s : ProcState) (t : Rel) (h : (s.payloadOf t).isSome = true) :
    (payloadThrough s t).isSome = true := by
  cases hp : s.payloadOf t with
  | none => simp [hp] at h
  | some p => rw [payloadThrough_some s p t hp]; rfl

theorem payloadThrough_temp (s : ProcState) (n : Nat) (t : Rel) :
    payloadThrough { s with nextTemp := n } t = payloadThrough s t := by
  induction t with
  | mat _ _ _ ih | transfer _ _ _ ih | select _ _ _ _ _ _ _ _ _ _ ih =>
    unfold payloadThrough
    rw [ih]
    rfl
  | _ => rfl

theorem payloadOf_mono {s s' : ProcState} (hsq : s'.sq = s.sq) (hm : PayMono s.st s'.st) (x : Rel)
    (h : (s.payloadOf x).isSome = true) : (s'.payloadOf x).isSome = true := by
  rw [payloadOf_isSome] at h ⊢
  cases x with
  | leaf | unary | binary => exact h
  | mat | transfer | select =>
    simp only [Bool.or_eq_true] at h ⊢
    exact hsq ▸ h.imp (hm _) id

theorem payloadThrough_mono {s s' : ProcState} (hsq : s'.sq = s.sq) (hm : PayMono s.st s'.st) (x : Rel)
    (h : (payloadThrough s x).isSome = true) : (payloadThrough s' x).isSome = true := by
  induction x with
  | leaf => exact payloadOf_mono hsq hm _ h
  | unary | binary => cases h
  | mat _ _ _ ih | transfer _ _ _ ih | select _ _ _ _ _ _ _ _ _ _ ih =>
    -- the marker's own payload stays; where it has none, the target's does
    unfold payloadThrough at h ⊢
    split at h
    · next hp =>
      obtain ⟨q, hq⟩ := Option.isSome_iff_exists.mp (payloadOf_mono hsq hm _ (Option.isSome_of_eq_some hp))
      rw [hq]
      rfl
    · split
      · rfl
      · exact ih h

/-- A payload found by looking through payload-less markers of an executable tree stands for the tree's rows. -/
theorem payloadThrough_rows (σ : Leaves) (reg : Nat → Option (List Row)) (s : ProcState) (hs : StoreOK σ reg s.st) :
    (x : Rel) → x.sqFree s.sq → x.RegOK σ reg → x.IterOKs s.st → (p : AnyPayload) → payloadThrough s x = some p →
    ∃ it, p = .iter it ∧ ItOK it ∧ it.rows σ = .ok (sem σ x) := by
  intro x hq hreg hio p h
  induction x with
  | leaf => exact payloadOf_rows hs h hreg hq
  | unary | binary => cases h
  | mat oid n t ih =>
    unfold payloadThrough at h
    split at h
    · next hpo => exact payloadOf_rows hs (hpo.trans h) hreg hq.1
    · next hpo =>
      exact ih hq.2 hreg.2 (hio.resolve_left (by rw [← payloadOf_mat_free s oid n t hq.1, hpo]; nofun)) h
  | transfer oid d t ih =>
    unfold payloadThrough at h
    split at h
    · next hpo => exact payloadOf_rows hs (hpo.trans h) hreg hq.1
    · next hpo =>
      have hio' := hio.resolve_left (by rw [← payloadOf_transfer_free s oid d t hq.1, hpo]; nofun)
      exact ih (hq.2 hio'.2) hreg.2 hio'.1 h
  | select _ _ _ _ _ _ _ _ _ _ ih =>
    unfold payloadThrough at h
    split at h
    · next hpo => exact payloadOf_rows hs (hpo.trans h) hreg hq.1
    · exact ih hq.2 hreg.2 hio h

/-- The payload a Materialization receives (iteration engines), whichever source `matPayload` takes it from - the
processed target `x`'s own payload, the engine's trivial one, the `materialize` hook - stands for exactly the rows of the
direct evaluation of the target; new payloads sit on Materializations of `x` only. -/
theorem matPayload_spec (σ : Leaves) (reg : Nat → Option (List Row)) (oid : Nat) (name : String) (target x : Rel)
    (persisted : Bool) (s1 : ProcState) (hk : x.engine.kind = .iter) (hkt : target.engine.kind = .iter)
    (hio : x.IterOKs s1.st) (hwf : x.WF) (htr : x.Truthful σ) (hkd : keyDetermined σ x = true)
    (hreg : x.RegOK σ reg) (hs : StoreOK σ reg s1.st) (hac : x.Acyclic) (hq : x.sqFree s1.sq)
    (hsem : sem σ x = sem σ target) (hwft : target.WF) (htrt : target.Truthful σ)
    (hflag : persisted = true → (payloadThrough s1 x).isSome = true) :
    ∃ it s2, (matPayload σ (.mat oid name target) target x name persisted) s1 = (.ok (some (.iter it)), s2) ∧
      ItOK it ∧ it.rows σ = .ok (sem σ target) ∧ StoreOK σ reg s2.st ∧ s2.sq = s1.sq ∧ s2.nextTemp = s1.nextTemp ∧
      PayMono s1.st s2.st ∧ PayNew x s1.st s2.st ∧ PayKeep s1.st s2.st := by
  have run := run_matPayload σ (.mat oid name target) target x name persisted s1
  have same : StoreOK σ reg s1.st ∧ s1.sq = s1.sq ∧ s1.nextTemp = s1.nextTemp ∧ PayMono s1.st s1.st ∧
      PayNew x s1.st s1.st ∧ PayKeep s1.st s1.st := ⟨hs, rfl, rfl, PayMono.refl _, PayNew.refl _ _, PayKeep.refl _⟩
  cases persisted with
  | true =>
    obtain ⟨p, hpt⟩ := Option.isSome_iff_exists.mp (hflag rfl)
    obtain ⟨it, rfl, hi, hrows⟩ := payloadThrough_rows σ reg s1 hs x hq hreg hio p hpt
    exact ⟨it, s1, run.trans (by rw [if_pos rfl, hpt]), hi, hrows.trans (congrArg _ hsem), same⟩
  | false =>
    rw [if_neg Bool.false_ne_true] at run
    by_cases ht : (Rel.mat oid name target).isTrivial = true
    · obtain ⟨it, hp, hi, hr⟩ := trivialPayload_spec σ (.mat oid name target) target.engine s1 hkt hwft htrt ht
      rw [if_pos ht, hp] at run
      exact ⟨it, s1, run, hi, hr, same⟩
    · obtain ⟨s2, hh, P⟩ := hookMaterialize_iter σ reg x name s1 hk hio hwf htr hkd hreg hs
      rw [if_neg ht, hh] at run
      exact ⟨.seq (sem σ x), s2, run, trivial, by rw [← hsem]; rfl, P⟩

theorem PlainIter.engine {e : Engine} : (t : Rel) → t.PlainIter e → t.engine = e := by
  intro t h
  induction t with
  | leaf => exact h
  | unary _ _ _ ih | mat _ _ _ ih => exact ih h
  | binary _ _ _ _ ihl => exact ihl h.1
  | transfer | select => cases h

structure ProcIterOK (σ : Leaves) (reg : Nat → Option (List Row)) (t : Rel) (s s' : ProcState) : Prop where
  store : StoreOK σ reg s'.st
  sq : s'.sq = s.sq
  cached : t.procFlag = true → (s'.payloadOf t).isSome = true
  temp : s'.nextTemp = s.nextTemp
  mono : PayMono s.st s'.st
  new : PayNew t s.st s'.st
  keep : PayKeep s.st s'.st

/-- The payload a processed leaf or materialization of a plain tree holds stands for its rows. -/
theorem cached_payload_rows (σ : Leaves) (reg : Nat → Option (List Row)) (s : ProcState) (e : Engine)
    (hs : StoreOK σ reg s.st) :
    (t : Rel) → t.sqFree s.sq → t.PlainIter e → t.RegOK σ reg → t.procFlag = true → (p : AnyPayload) → s.payloadOf t = some p →
    ∃ it, p = .iter it ∧ ItOK it ∧ it.rows σ = .ok (sem σ t) :=
  fun t hq _ hreg hf _ h => payloadOf_rows hs h hreg (sqFree_oid s.sq t hq hf)

theorem process_plain_iter (σ : Leaves) (reg : Nat → Option (List Row)) (e : Engine) (hek : e.kind = .iter)
    (t : Rel) (fuel : Nat) (matAs : Option String) (s : ProcState) (hp : t.PlainIter e) (hio : t.IterOK) (hwf : t.WF)
    (htr : t.Truthful σ) (hkd : keyDetermined σ t = true) (hreg : t.RegOK σ reg) (hs : StoreOK σ reg s.st)
    (hq : t.sqFree s.sq) (hac : t.Acyclic) (hf : t.size ≤ fuel) :
    ∃ s', (processRec σ fuel t matAs).run.run s = (.ok (.same, t.procFlag), s') ∧ ProcIterOK σ reg t s s' := by
  induction fuel generalizing t matAs s with
  | zero => exact absurd hf (Nat.not_le_of_lt t.size_pos)
  | succ n ih =>
    have cached : (s.payloadOf t).isSome = true → t.procFlag = true →
        ∃ s', (processRec σ (n + 1) t matAs).run.run s = (.ok (.same, t.procFlag), s') ∧ ProcIterOK σ reg t s s' :=
      fun hc hfl => ⟨s, hfl ▸ processRec_cached σ n _ matAs s hc,
        { store := hs, sq := rfl, cached := fun _ => hc, temp := rfl, mono := PayMono.refl _, new := PayNew.refl _ _,
          keep := PayKeep.refl _ }⟩
    cases t with
    | transfer => cases hp
    | select => cases hp
    | leaf oid le cols nm mn mx pl ms =>
      exact cached ((payloadOf_isSome s _).trans hio) rfl
    | unary op t c =>
      obtain ⟨s', ih, P⟩ := ih t none s hp hio.1 hwf.1 htr (Bool.and_eq_true_iff.mp hkd).1 hreg hs hq hac
        (Nat.le_of_succ_le_succ hf)
      exact ⟨s', by rw [processRec_unary, ih]; rfl,
        { store := P.store, sq := P.sq, cached := nofun, temp := P.temp, mono := P.mono, new := P.new, keep := P.keep }⟩
    | binary op l r c =>
      obtain ⟨hpl, hpr, hpo⟩ := hp
      obtain ⟨hil, hir, -⟩ := hio
      have hkd' : keyDetermined σ l = true ∧ keyDetermined σ r = true := Bool.and_eq_true_iff.mp hkd
      have hsz : l.size ≤ n ∧ r.size ≤ n := by simp only [Rel.size] at hf; omega
      obtain ⟨s1, ih1, P1⟩ := ih l none s hpl hil hwf.1 htr.1 hkd'.1 hreg.1 hs hq.1 hac.1 hsz.1
      obtain ⟨s2, ih2, P2⟩ := ih r none s1 hpr hir hwf.2.1 htr.2 hkd'.2 hreg.2 P1.store (P1.sq ▸ hq.2) hac.2 hsz.2
      exact ⟨s2, processRec_binary_same ih1 ih2 hpo,
        { store := P2.store, sq := P2.sq.trans P1.sq, cached := nofun, temp := P2.temp.trans P1.temp,
          mono := P1.mono.trans P2.mono,
          new := PayNew.trans P1.new P2.new (fun _ h => List.mem_append_left _ h) (fun _ h => List.mem_append_right _ h),
          keep := P1.keep.trans P2.keep }⟩
    | mat oid name target =>
      have hek' : target.engine.kind = .iter := PlainIter.engine target hp ▸ hek
      cases hc : (s.payloadOf (Rel.mat oid name target)).isSome with
      | true => exact cached hc rfl
      | false =>
        obtain ⟨s1, ih, P1⟩ := ih target (some name) s hp hio hwf htr hkd hreg.2 hs hq.2 hac.2
          (Nat.le_of_succ_le_succ hf)
        obtain ⟨it, s2, hmp, hi, hr, h2, hsq, hnt, hm2, hn2, hk2⟩ := matPayload_spec σ reg oid name target target
          target.procFlag s1 hek' hek' (Rel.IterOKs.of_iterOK _ target hio) hwf htr hkd hreg.2 P1.store hac.2
          (P1.sq ▸ hq.2) rfl hwf htr (fun hfl => payloadThrough_isSome s1 target (P1.cached hfl))
        have hnew : PayNew target s.st s2.st := PayNew.trans P1.new hn2 (fun _ h => h) (fun _ h => h)
        refine ⟨s2.attach oid (.iter it), ?_,
          { store := StoreOK.cons h2 oid it _ hi hreg.1 hr, sq := hsq.trans P1.sq,
            cached := fun _ => payloadOf_mat_attach .., temp := hnt.trans P1.temp,
            mono := (P1.mono.trans hm2).trans (PayMono.cons s2.st oid it _), new := hnew.mat oid name it s2.st.evals,
            keep := (P1.keep.trans hk2).trans
              (PayKeep.cons s2.st oid it s2.st.evals (hnew.none_of (payloadOf_mat_none hc) hac.1)) }⟩
        rw [processRec_mat σ n oid name target matAs s hc, ih, bindRun_ok, bindRun_ok]
        exact congrArg (bindRun · _) hmp

theorem sqFree_empty (t : Rel) : t.sqFree {} := by
  induction t with
  | leaf => rfl
  | unary _ _ _ ih => exact ih
  | binary _ _ _ _ ihl ihr => exact ⟨ihl, ihr⟩
  | mat _ _ _ ih | select _ _ _ _ _ _ _ _ _ _ ih => exact ⟨rfl, ih⟩
  | transfer _ _ _ ih => exact ⟨rfl, fun _ => ih⟩

end DafRel
