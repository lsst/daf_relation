/-
`_process_recursive` (`processRec`) seen through its runs: `m.run.run s` is a pair of an outcome and a final state,
`bindRun` sequences two such runs, and `processRec` has one equation per node class in these terms (the `do` block is
unfolded here and nowhere else); a successful run is taken apart with `bindRun_ok_inv`.  Then: relations that hold a
payload, and trees made of them, are left alone.
-/
import DafRel.Spec.Processor
import DafRel.Lemmas.Metadata

namespace DafRel

section Run
variable {α β γ : Type}

def bindRun (r : Except Err α × ProcState) (k : α → ProcState → Except Err β × ProcState) : Except Err β × ProcState :=
  match r with
  | (.ok a, s) => k a s
  | (.error e, s) => (.error e, s)

@[simp] theorem bindRun_ok (a : α) (s : ProcState) (k : α → ProcState → Except Err β × ProcState) :
    bindRun (.ok a, s) k = k a s := rfl

theorem bindRun_assoc (r : Except Err α × ProcState) (k1 : α → ProcState → Except Err β × ProcState)
    (k2 : β → ProcState → Except Err γ × ProcState) :
    bindRun (bindRun r k1) k2 = bindRun r (fun a s => bindRun (k1 a s) k2) := by
  rcases r with ⟨e | a, s⟩ <;> rfl

theorem bindRun_ok_inv {r : Except Err α × ProcState} {k : α → ProcState → Except Err β × ProcState} {b : β}
    {s' : ProcState} (h : bindRun r k = (.ok b, s')) : ∃ a s1, r = (.ok a, s1) ∧ k a s1 = (.ok b, s') := by
  rcases r with ⟨e | a, s1⟩
  · cases h
  · exact ⟨a, s1, rfl, h⟩

/-- For the model's `match x with | .error e => throw e | .ok a => ..`. -/
theorem bindRun_except_inv {x : Except Err α} {s : ProcState} {k : α → ProcState → Except Err β × ProcState} {b : β}
    {s' : ProcState} (h : bindRun (x, s) k = (.ok b, s')) : ∃ a, x = .ok a ∧ k a s = (.ok b, s') := by
  obtain ⟨a, s1, h1, h2⟩ := bindRun_ok_inv h
  obtain ⟨rfl, rfl⟩ := Prod.mk.inj h1
  exact ⟨a, rfl, h2⟩

/-- Oriented so that `obtain ⟨rfl, rfl, rfl⟩` eliminates the right side. -/
theorem ok_run_inj {a a' : α} {b b' : β} {s s' : ProcState}
    (h : ((.ok (a, b) : Except Err (α × β)), s) = (.ok (a', b'), s')) : a = a' ∧ b = b' ∧ s = s' := by
  cases h
  exact ⟨rfl, rfl, rfl⟩

theorem run_bind (x : ProcM α) (f : α → ProcM β) (s : ProcState) :
    (x >>= f).run.run s = bindRun (x.run.run s) (fun a s1 => (f a).run.run s1) := by
  show (x >>= f) s = bindRun (x s) (fun a s1 => f a s1)
  simp only [bind, ExceptT.bind, ExceptT.mk, StateT.bind]
  rcases x s with ⟨a | a, s1⟩ <;> rfl

/-- `run_bind` with the continuation's runs computed under the binder. -/
theorem run_bind_eq {x : ProcM α} {f : α → ProcM β} {k : α → ProcState → Except Err β × ProcState}
    (h : ∀ a s1, (f a).run.run s1 = k a s1) (s : ProcState) : (x >>= f).run.run s = bindRun (x.run.run s) k := by
  rw [run_bind]
  congr 1
  funext a s1
  exact h a s1

theorem run_pure (a : α) (s : ProcState) : (pure a : ProcM α).run.run s = (.ok a, s) := rfl
theorem run_get (s : ProcState) : (get : ProcM ProcState).run.run s = (.ok s, s) := rfl
theorem run_modify (f : ProcState → ProcState) (s : ProcState) : (modify f : ProcM PUnit).run.run s = (.ok ⟨⟩, f s) := rfl
theorem run_freshTemp (s : ProcState) :
    freshTemp.run.run s = (.ok s.nextTemp, { s with nextTemp := s.nextTemp + 1 }) := rfl

theorem run_ite (c : Prop) [Decidable c] (x y : ProcM α) (s : ProcState) :
    (if c then x else y).run.run s = if c then x.run.run s else y.run.run s := by
  split <;> rfl

theorem bindRun_ite (c : Prop) [Decidable c] (a b : Except Err α × ProcState)
    (k : α → ProcState → Except Err β × ProcState) :
    bindRun (if c then a else b) k = if c then bindRun a k else bindRun b k := by
  split <;> rfl

end Run

theorem payloadOf_isSome (s : ProcState) (r : Rel) :
    (s.payloadOf r).isSome = match r with
      | .leaf _ _ _ _ _ _ p _ => p
      | .unary .. => false
      | .binary .. => false
      | r => (s.st.payload r.oid).isSome || (s.sq.payload r.oid).isSome := by
  cases r with
  | leaf oid _ _ _ _ _ p _ =>
    simp only [ProcState.payloadOf]
    cases p
    · rfl
    · cases s.sq.payload oid <;> rfl
  | unary | binary => rfl
  | mat oid | transfer oid | select oid =>
    simp only [ProcState.payloadOf, Rel.oid]
    cases s.st.payload oid <;> simp

theorem processRec_cached (σ : Leaves) (n : Nat) (orig : Rel) (matAs : Option String)
    (s : ProcState) (h : (s.payloadOf orig).isSome = true) :
    (processRec σ (n+1) orig matAs).run.run s = (.ok (.same, true), s) := by
  rewrite [processRec.eq_def]
  show ((get : ProcM ProcState) >>= _).run.run s = _
  rewrite [run_bind, run_get, bindRun_ok, if_pos h]
  rfl

theorem processRec_unary (σ : Leaves) (n : Nat) (op : UOp) (t : Rel) (c : Cols) (matAs : Option String) (s : ProcState) :
    (processRec σ (n+1) (.unary op t c) matAs).run.run s =
      bindRun ((processRec σ n t none).run.run s) fun v s1 =>
        match v.1 with
        | .same => (.ok (.same, false), s1)
        | .new t' => bindRun (applyOp s1.store defaultFuel (.u op) t' {}, s1) fun r s2 =>
            (.ok (.new (r.get t'), false), s2) := by
  rewrite [processRec.eq_def]
  show ((get : ProcM ProcState) >>= _).run.run s = _
  rewrite [run_bind, run_get, bindRun_ok, if_neg (show ¬(s.payloadOf (.unary op t c)).isSome = true from Bool.false_ne_true)]
  refine run_bind_eq (fun v s1 => ?_) s
  rcases v with ⟨nt, fl⟩
  cases nt with
  | same => rfl
  | new t' =>
    show ((get : ProcM ProcState) >>= _).run.run s1 = _
    rewrite [run_bind, run_get, bindRun_ok]
    show _ = bindRun (applyOp s1.store defaultFuel (.u op) t' {}, s1) _
    cases applyOp s1.store defaultFuel (.u op) t' {} <;> rfl

theorem processRec_binary (σ : Leaves) (n : Nat) (op : BOp) (l r : Rel) (c : Cols) (matAs : Option String) (s : ProcState) :
    (processRec σ (n+1) (.binary op l r c) matAs).run.run s =
      bindRun ((processRec σ n l none).run.run s) fun vl s1 =>
      bindRun ((processRec σ n r none).run.run s1) fun vr s2 =>
        let isChain := match op with
          | .chain => true
          | _ => false
        if (isChain && (vl.1.get l).maxRows == some 0) = true then (.ok (.new (vr.1.get r), vr.2), s2)
        else if (isChain && (vr.1.get r).maxRows == some 0) = true then (.ok (.new (vl.1.get l), vl.2), s2)
        else if (vl.1.isSame && vr.1.isSame) = true then (.ok (.same, false), s2)
        else bindRun (binaryApply s2.store defaultFuel op (vl.1.get l) (vr.1.get r), s2) fun b s3 =>
          (.ok (.new (b.get (vl.1.get l) (vr.1.get r)), false), s3) := by
  rewrite [processRec.eq_def]
  show ((get : ProcM ProcState) >>= _).run.run s = _
  rewrite [run_bind, run_get, bindRun_ok, if_neg (show ¬(s.payloadOf (.binary op l r c)).isSome = true from Bool.false_ne_true)]
  refine run_bind_eq (fun vl s1 => run_bind_eq (fun vr s2 => ?_) s1) s
  -- both sides test the same two conditions; what is left is the re-application
  rewrite [run_ite, run_ite]
  congr 2
  have rebuild : ∀ l' r' : Rel, (do
      match binaryApply (← get).store defaultFuel op l' r' with
      | .error e => throw e
      | .ok b => return (Res.new (b.get l' r'), false) : ProcM (Res × Bool)).run.run s2 =
      bindRun (binaryApply s2.store defaultFuel op l' r', s2) fun b s3 => (.ok (.new (b.get l' r'), false), s3) := by
    intro l' r'
    rewrite [run_bind, run_get, bindRun_ok]
    cases binaryApply s2.store defaultFuel op l' r' <;> rfl
  cases vl.1 with
  | new x => exact rebuild _ _
  | same =>
    cases vr.1 with
    | same => rfl
    | new y => exact rebuild _ _

theorem processRec_binary_same {σ : Leaves} {n : Nat} {op : BOp} {l r : Rel} {c : Cols} {matAs : Option String}
    {s s1 s2 : ProcState} {bl br : Bool} (hl : (processRec σ n l none).run.run s = (.ok (.same, bl), s1))
    (hr : (processRec σ n r none).run.run s1 = (.ok (.same, br), s2))
    (hop : match op with
      | .chain => l.maxRows ≠ some 0 ∧ r.maxRows ≠ some 0
      | _ => True) :
    (processRec σ (n+1) (.binary op l r c) matAs).run.run s = (.ok (.same, false), s2) := by
  rw [processRec_binary, hl, bindRun_ok, hr, bindRun_ok]
  cases op with
  | chain =>
    simp only [Res.get, Bool.true_and, beq_iff_eq, hop.1, hop.2, if_false]
    rfl
  | join j => rfl
  | ignoreOne b => rfl

theorem trivialPayload_ok (e : Engine) (ji : Bool) (cols : Cols) (s : ProcState) :
    ∃ p s1, (trivialPayload e ji cols).run.run s = (.ok p, s1) ∧ s1.hooks = s.hooks ∧ s1.nextTemp = s.nextTemp := by
  unfold trivialPayload
  cases e.kind <;> exact ⟨_, _, rfl, rfl, rfl⟩

theorem trivialPayload_spec (σ : Leaves) (r : Rel) (e : Engine) (s : ProcState) (hk : e.kind = .iter) (hwf : r.WF)
    (htr : r.Truthful σ) (ht : r.isTrivial = true) :
    ∃ it, (trivialPayload e r.isJoinIdentity r.columns).run.run s = (.ok (.iter it), s) ∧ ItOK it ∧
      it.rows σ = .ok (sem σ r) := by
  refine ⟨.mapping [] (if r.isJoinIdentity then [Row.empty] else []), ?_, by split <;> simp [ItOK],
    congrArg Except.ok (trivial_rows σ r hwf htr ht).symm⟩
  unfold trivialPayload
  rw [hk]
  rfl

theorem processRec_transfer (σ : Leaves) (n : Nat) (oid : Nat) (dest : Engine) (target : Rel) (matAs : Option String)
    (s : ProcState) (h : (s.payloadOf (.transfer oid dest target)).isSome = false) :
    (processRec σ (n+1) (.transfer oid dest target) matAs).run.run s =
      bindRun
        (if (Rel.transfer oid dest target).isTrivial = true then
          bindRun ((trivialPayload dest (Rel.transfer oid dest target).isJoinIdentity
            (Rel.transfer oid dest target).columns).run.run s) fun p s1 => (.ok (Res.same, p), s1)
        else
          bindRun ((processRec σ n target none).run.run s) fun v s1 =>
          bindRun ((hookTransfer σ (v.1.get target) dest matAs).run.run s1) fun p s2 => (.ok (v.1, p), s2))
        fun w s3 => (.ok (.new (.transfer s3.nextTemp dest (w.1.get target)), matAs.isSome),
          ({ s3 with nextTemp := s3.nextTemp + 1 } : ProcState).attach s3.nextTemp w.2) := by
  rewrite [processRec.eq_def]
  show ((get : ProcM ProcState) >>= _).run.run s = _
  -- `ite_trivial` (Metadata.lean), right to left: the statement's one `if isTrivial` becomes the model's two tests,
  -- `isJoinIdentity` and then `maxRows == some 0`, each calling `trivialPayload`
  rewrite [run_bind, run_get, bindRun_ok, if_neg (by rw [h]; exact Bool.false_ne_true),
    ← ite_trivial _ fun ji => bindRun ((trivialPayload dest ji _).run.run s) fun p s1 => (.ok (Res.same, p), s1)]
  -- three branches, each a few binds that end in the common tail (draw the id, attach, return): the run lemmas compute them
  simp only [run_ite, bindRun_ite, run_bind, run_pure, bindRun_ok, bindRun_assoc, run_freshTemp, run_modify]

theorem setMatOid_new (name : String) (f : Nat) (x : Rel) : setMatOid name f (.mat 0 name x) = .mat f name x := by
  simp [setMatOid]

theorem run_tempRoot_mat (o : Nat) (nm : String) (t : Rel) (s : ProcState) (h : o ≠ 0) :
    (tempRoot (.mat o nm t)).run.run s = (.ok (.mat o nm t), s) := by
  cases o with
  | zero => exact absurd rfl h
  | succ k => rfl

theorem run_matPayload (σ : Leaves) (orig target x : Rel) (name : String) (persisted : Bool) (s : ProcState) :
    (matPayload σ orig target x name persisted).run.run s =
      if persisted = true then (.ok (payloadThrough s x), s)
      else bindRun
        (if orig.isTrivial = true then (trivialPayload target.engine orig.isJoinIdentity orig.columns).run.run s
         else (hookMaterialize σ x name).run.run s) fun p s1 => (.ok (some p), s1) := by
  rw [← ite_trivial orig fun ji => (trivialPayload target.engine ji orig.columns).run.run s, bindRun_ite, bindRun_ite]
  unfold matPayload
  simp only [run_ite, run_bind, run_get, run_pure, bindRun_ok]

/-- The model's `result` / `inner` / `payload` bookkeeping flattened: `materialize` wraps a new target; a payload the
wrapped result already holds (seen through payload-less wrappers) is reused, otherwise `matPayload` delivers one; it goes
to the input's Materialization and, when `materialize` made a new one, to that as well. -/
theorem processRec_mat (σ : Leaves) (n : Nat) (oid : Nat) (name : String) (target : Rel) (matAs : Option String)
    (s : ProcState) (h : (s.payloadOf (.mat oid name target)).isSome = false) :
    (processRec σ (n+1) (.mat oid name target) matAs).run.run s =
      bindRun ((processRec σ n target (some name)).run.run s) fun v s1 =>
      bindRun (match v.1 with
          | .same => (.ok Res.same, s1)
          | .new x => bindRun (materialize s1.store defaultFuel x name, s1) fun r s1' =>
              bindRun ((tempRoot (match r with
                  | .same => x
                  | .new y => setMatOid name s1'.nextTemp y)).run.run { s1' with nextTemp := s1'.nextTemp + 1 })
                fun res s2 => (.ok (Res.new res), s2)) fun result s2 =>
      match result with
      | .same =>
        bindRun ((matPayload σ (.mat oid name target) target (v.1.get target) name v.2).run.run s2) fun p s3 =>
          (.ok (.same, true), match p with
            | some q => s3.attach oid q
            | none => s3)
      | .new res =>
        match s2.payloadOf (lookThrough s2 res) with
        | some p => (.ok (.new res, true), s2.attach oid p)
        | none =>
          bindRun ((matPayload σ (.mat oid name target) target (v.1.get target) name v.2).run.run s2) fun p s3 =>
            (.ok (.new res, true), match p with
              | none => s3
              | some q =>
                match lookThrough s2 res with
                | .mat o _ _ => (s3.attach oid q).attach o q
                | _ => s3.attach oid q) := by
  rewrite [processRec.eq_def]
  show ((get : ProcM ProcState) >>= _).run.run s = _
  rewrite [run_bind, run_get, bindRun_ok, if_neg (by rw [h]; exact Bool.false_ne_true)]
  refine run_bind_eq (fun v s1 => ?_) s
  rcases v with ⟨nt, fl⟩
  cases nt with
  | same =>
    rewrite [run_bind, run_pure, bindRun_ok, run_bind, run_get, bindRun_ok]
    refine run_bind_eq (fun p s3 => ?_) s1
    cases p <;> rfl
  | new x =>
    show ((get : ProcM ProcState) >>= _).run.run s1 = _
    rewrite [run_bind, run_get, bindRun_ok]
    dsimp only [Res.get]
    cases materialize s1.store defaultFuel x name with
    | error e => rfl
    | ok r =>
      show ((freshTemp >>= _ : ProcM (Res × Bool))).run.run s1 = _
      rewrite [run_bind, run_freshTemp, bindRun_ok, run_bind, bindRun_ok, bindRun_assoc]
      congr 1
      funext res s2
      rewrite [run_bind, run_pure, bindRun_ok, run_bind, run_get, bindRun_ok]
      show ((get : ProcM ProcState) >>= _).run.run s2 = _
      rewrite [run_bind, run_get, bindRun_ok]
      show (match s2.payloadOf (lookThrough s2 res) with
        | some p => _
        | _ => _ : ProcM (Res × Bool)).run.run s2 = match s2.payloadOf (lookThrough s2 res) with
        | some p => _
        | none => _
      cases s2.payloadOf (lookThrough s2 res) with
      | some p => rfl
      | none =>
        show (matPayload _ _ _ _ _ _ >>= _).run.run s2 = _
        refine run_bind_eq (fun p s3 => ?_) s2
        dsimp only
        cases p with
        | none => cases lookThrough s2 res <;> rfl
        | some q => cases lookThrough s2 res <;> rfl

theorem processTop_eq_ok {σ : Leaves} {st : ExecState} {sq : SqlState} {t : Rel} {res : Res} {ps : ProcState} :
    processTop σ st sq t = (.ok res, ps) ↔
      ∃ b, (processRec σ defaultFuel t none).run.run { st := st, sq := sq } = (.ok (res, b), ps) := by
  unfold processTop
  generalize (processRec σ defaultFuel t none).run.run { st := st, sq := sq } = r
  rcases r with ⟨e | ⟨r, b⟩, s1⟩
  · exact ⟨nofun, fun ⟨_, h⟩ => nomatch h⟩
  · constructor
    · intro h
      cases h
      exact ⟨b, rfl⟩
    · intro ⟨_, h⟩
      cases h
      rfl

theorem Rel.size_pos (t : Rel) : 0 < t.size := by
  cases t <;> simp [Rel.size]

theorem processRec_settled (σ : Leaves) (s : ProcState) :
    (t : Rel) → (fuel : Nat) → (matAs : Option String) →
    t.Settled s → t.size ≤ fuel → ∃ b, (processRec σ fuel t matAs).run.run s = (.ok (.same, b), s) := by
  intro t fuel
  induction fuel generalizing t with
  | zero => exact fun _ _ hf => absurd hf (Nat.not_le_of_lt t.size_pos)
  | succ n ih =>
    intro matAs hs hf
    cases t with
    | unary op t c =>
      obtain ⟨b, ih⟩ := ih t none hs (Nat.le_of_succ_le_succ hf)
      exact ⟨false, by rw [processRec_unary, ih]; rfl⟩
    | binary op l r c =>
      obtain ⟨hl, hr, hop⟩ := hs
      have hsz : l.size ≤ n ∧ r.size ≤ n := by simp only [Rel.size] at hf; omega
      obtain ⟨b1, ih1⟩ := ih l none hl hsz.1
      obtain ⟨b2, ih2⟩ := ih r none hr hsz.2
      exact ⟨false, processRec_binary_same ih1 ih2 hop⟩
    | _ => exact ⟨true, processRec_cached σ n _ matAs s hs⟩

theorem settled_of_sqlLeafTree (s : ProcState) (t : Rel) (h : t.SqlLeafTree) : t.Settled s := by
  induction t with
  | leaf => exact (payloadOf_isSome s _).trans h.2
  | unary _ _ _ ih => exact ih h
  | binary _ _ _ _ ihl ihr => exact ⟨ihl h.1, ihr h.2.1, h.2.2⟩
  | mat | transfer | select => cases h

end DafRel
