/-
Soundness of `as_trivial` (of a predicate; `is_trivial` of a relation is in `Metadata.lean`) for the specification
semantics (`val`), hence for the checked evaluator (`eval`) whenever that returns at all (`eval_sound`).

`flatten_logical_and`, `logical_and` and the predicate normalisation of `Selection.__post_init__` are characterised
once, for any property that a conjunction has exactly when all its operands have it (`Pred.Conjunctive`); the
instances follow: truth on a row, well-formed arities, not mentioning a column, being trivially true.
-/
import DafRel.Lemmas.Expr
import DafRel.Model.Op

namespace DafRel

mutual
theorem Pred.asTrivial_val (r : Row) (p : Pred) (b : Bool) (h : p.asTrivial = some b) : p.val r = b := by
  cases p with
  | lit _ => exact Option.some.inj h
  | ref | fn | inC => cases h
  | not p =>
    obtain ⟨b', hb', rfl⟩ := Option.map_eq_some_iff.mp (show p.asTrivial.map _ = some b from h)
    rw [Pred.val, Pred.asTrivial_val r p b' hb']
  | and ps =>
    have := Pred.asTrivialAnd_val r ps (some true) b h
    cases b
    · exact (this.2 rfl).resolve_left nofun
    · exact (this.1 rfl).2
  | or ps =>
    have := Pred.asTrivialOr_val r ps (some false) b h
    cases b
    · exact (this.1 rfl).2
    · exact (this.2 rfl).resolve_left nofun
theorem Pred.asTrivialAnd_val (r : Row) (ps : List Pred) (acc : Option Bool) (b : Bool)
    (h : Pred.asTrivialAnd ps acc = some b) :
    (b = true → acc = some true ∧ Pred.valAll r ps = true) ∧
      (b = false → acc = some false ∨ Pred.valAll r ps = false) := by
  cases ps with
  | nil => exact ⟨fun hb => ⟨hb ▸ h, rfl⟩, fun hb => Or.inl (hb ▸ h)⟩
  | cons p ps =>
    -- `acc` is the loop's running `result`: `some true` until an operand that is not trivial makes it `none`;
    -- the three goals of `split`: the operand is trivially false, not trivial, trivially true
    rw [Pred.asTrivialAnd] at h
    rw [Pred.valAll]
    split at h
    · next hp =>
      cases h
      rw [Pred.asTrivial_val r p false hp]
      exact ⟨nofun, fun _ => Or.inr rfl⟩
    · have ih := Pred.asTrivialAnd_val r ps none b h
      exact ⟨fun hb => (nomatch (ih.1 hb).1),
        fun hb => Or.inr (by rw [(ih.2 hb).resolve_left nofun, Bool.and_false])⟩
    · next hp =>
      rw [Pred.asTrivial_val r p true hp, Bool.true_and]
      exact Pred.asTrivialAnd_val r ps acc b h
theorem Pred.asTrivialOr_val (r : Row) (ps : List Pred) (acc : Option Bool) (b : Bool)
    (h : Pred.asTrivialOr ps acc = some b) :
    (b = false → acc = some false ∧ Pred.valAny r ps = false) ∧
      (b = true → acc = some true ∨ Pred.valAny r ps = true) := by
  cases ps with
  | nil => exact ⟨fun hb => ⟨hb ▸ h, rfl⟩, fun hb => Or.inl (hb ▸ h)⟩
  | cons p ps =>
    rw [Pred.asTrivialOr] at h
    rw [Pred.valAny]
    split at h
    · next hp =>
      cases h
      rw [Pred.asTrivial_val r p true hp]
      exact ⟨nofun, fun _ => Or.inr rfl⟩
    · have ih := Pred.asTrivialOr_val r ps none b h
      exact ⟨fun hb => (nomatch (ih.1 hb).1),
        fun hb => Or.inr (by rw [(ih.2 hb).resolve_left nofun, Bool.or_true])⟩
    · next hp =>
      rw [Pred.asTrivial_val r p false hp, Bool.false_or]
      exact Pred.asTrivialOr_val r ps acc b h
end

theorem Pred.asTrivial_eval (r : Row) :
    (p : Pred) → (b v : Bool) → p.asTrivial = some b → p.eval r = some v → v = b :=
  fun p b v h he => by rw [← Pred.eval_sound r p v he, Pred.asTrivial_val r p b h]

theorem Pred.asTrivialAnd_eval (r : Row) : (ps : List Pred) → (acc : Option Bool) → (b v : Bool) →
    Pred.asTrivialAnd ps acc = some b → Pred.evalAll r ps = some v →
      (b = true → acc = some true ∧ v = true) ∧ (b = false → acc = some false ∨ v = false) :=
  fun ps acc b v h he => by
    rw [← Pred.evalAll_sound r ps v he]
    exact Pred.asTrivialAnd_val r ps acc b h

theorem Pred.asTrivialOr_eval (r : Row) : (ps : List Pred) → (acc : Option Bool) → (b v : Bool) →
    Pred.asTrivialOr ps acc = some b → Pred.evalAny r ps = some v →
      (b = false → acc = some false ∧ v = false) ∧ (b = true → acc = some true ∨ v = true) :=
  fun ps acc b v h he => by
    rw [← Pred.evalAny_sound r ps v he]
    exact Pred.asTrivialOr_val r ps acc b h

structure Pred.Conjunctive (Q : Pred → Prop) : Prop where
  and : ∀ qs, Q (.and qs) ↔ ∀ q, q ∈ qs → Q q
  true : Q (.lit true)

theorem Pred.flattenAnd_conj {Q : Pred → Prop} (hQ : Pred.Conjunctive Q) (p : Pred) :
    ∀ ps, p.flattenAnd = some ps → (Q p ↔ ∀ x, x ∈ ps → Q x) := by
  -- the scheme of `Pred.val_congr`; the statement about `flattenAndList` is the instance `.and qs`
  induction p using Pred.rec (motive_2 := fun qs => ∀ ps, Pred.flattenAndList qs = some ps →
    ((∀ q, q ∈ qs → Q q) ↔ ∀ x, x ∈ ps → Q x)) with
  | and qs ih => exact fun ps h => (hQ.and qs).trans (ih ps h)
  | lit b =>
    intro ps h
    cases b <;> cases h
    exact iff_of_true hQ.true nofun
  | ref | fn | not | or | inC => intro ps h; cases h; exact List.forall_mem_singleton.symm
  | nil => next ps h => cases h; exact Iff.rfl
  | cons q qs ihq ihqs =>
    next ps h =>
    rw [Pred.flattenAndList] at h
    split at h
    · cases h
    · next xs hq =>
      split at h
      · cases h
      · next ys hqs =>
        cases h
        rw [List.forall_mem_cons, List.forall_mem_append, ihq xs hq, ihqs ys hqs]

/-- `flatten_logical_and` answers `False` only for a predicate that lacks every conjunctive property
that `False` lacks. -/
theorem Pred.flattenAnd_none {Q : Pred → Prop} (hQ : Pred.Conjunctive Q) (hf : ¬ Q (.lit false)) (p : Pred) :
    p.flattenAnd = none → ¬ Q p := by
  induction p using Pred.rec (motive_2 := fun qs => Pred.flattenAndList qs = none → ¬ ∀ q, q ∈ qs → Q q) with
  | and qs ih => exact fun h hq => ih h ((hQ.and qs).mp hq)
  | lit b =>
    intro h
    cases b
    · exact hf
    · cases h
  | ref | fn | not | or | inC => exact nofun
  | nil => next h => cases h
  | cons q qs ihq ihqs =>
    next h =>
    rw [Pred.flattenAndList] at h
    rw [List.forall_mem_cons]
    split at h
    · next hq => exact fun hall => ihq hq hall.1
    · split at h
      · next hqs => exact fun hall => ihqs hqs hall.2
      · cases h

theorem Pred.logicalAnd_conj {Q : Pred → Prop} (hQ : Pred.Conjunctive Q) (ps : List Pred) :
    Q (Pred.logicalAnd ps) ↔ ∀ x, x ∈ ps → Q x := by
  fun_cases Pred.logicalAnd ps with
  | case1 => exact iff_of_true hQ.true nofun
  | case2 => exact List.forall_mem_singleton.symm
  | case3 ps => exact hQ.and ps

/-- The predicate a `Selection` stores has every conjunctive property of the predicate it was given. -/
theorem Pred.normalise_conj {Q : Pred → Prop} (hQ : Pred.Conjunctive Q) (p : Pred) :
    Q p.normalise ↔ Q p := by
  unfold Pred.normalise
  cases h : p.flattenAnd with
  | none => exact Iff.rfl
  | some ps => exact (Pred.logicalAnd_conj hQ ps).trans (Pred.flattenAnd_conj hQ p ps h).symm

theorem Pred.valAll_eq_all (r : Row) (ps : List Pred) : Pred.valAll r ps = ps.all (Pred.val r) := by
  induction ps with
  | nil => rfl
  | cons p ps ih => rw [Pred.valAll, List.all_cons, ih]

theorem Pred.conjunctive_val (r : Row) : Pred.Conjunctive (fun p => p.val r = true) :=
  ⟨fun qs => by rw [Pred.val, Pred.valAll_eq_all, List.all_eq_true], rfl⟩

theorem Pred.flattenAnd_val (r : Row) : (p : Pred) →
    (match p.flattenAnd with
     | some ps => p.val r = Pred.valAll r ps
     | none => p.val r = false) := fun p => by
  cases h : p.flattenAnd with
  | some ps =>
    show p.val r = Pred.valAll r ps
    rw [Bool.eq_iff_iff, Pred.valAll_eq_all, List.all_eq_true]
    exact Pred.flattenAnd_conj (Pred.conjunctive_val r) p ps h
  | none => exact Bool.eq_false_iff.mpr (Pred.flattenAnd_none (Pred.conjunctive_val r) nofun p h)

theorem Pred.flattenAndList_val (r : Row) : (ps : List Pred) →
    (match Pred.flattenAndList ps with
     | some qs => Pred.valAll r ps = Pred.valAll r qs
     | none => Pred.valAll r ps = false) :=
  fun ps => Pred.flattenAnd_val r (.and ps)

theorem Pred.normalise_val (r : Row) (p : Pred) : p.normalise.val r = p.val r :=
  Bool.eq_iff_iff.mpr (Pred.normalise_conj (Pred.conjunctive_val r) p)

theorem Pred.arityOkList_eq_all (ps : List Pred) : Pred.arityOkList ps = ps.all Pred.arityOk := by
  induction ps with
  | nil => rfl
  | cons p ps ih => rw [Pred.arityOkList, List.all_cons, ih]

theorem Pred.conjunctive_arityOk : Pred.Conjunctive (fun p => p.arityOk = true) :=
  ⟨fun qs => by rw [Pred.arityOk, Pred.arityOkList_eq_all, List.all_eq_true], rfl⟩

theorem Pred.flattenAnd_arityOk (p : Pred) (ps : List Pred) (h : p.flattenAnd = some ps)
    (ha : p.arityOk = true) : Pred.arityOkList ps = true := by
  rw [Pred.arityOkList_eq_all, List.all_eq_true]
  exact (Pred.flattenAnd_conj Pred.conjunctive_arityOk p ps h).mp ha

theorem Pred.flattenAndList_arityOk : (qs : List Pred) → (ps : List Pred) →
    Pred.flattenAndList qs = some ps → Pred.arityOkList qs = true → Pred.arityOkList ps = true :=
  fun qs => Pred.flattenAnd_arityOk (.and qs)

theorem Pred.normalise_arityOk (p : Pred) (h : p.arityOk = true) : p.normalise.arityOk = true :=
  (Pred.normalise_conj Pred.conjunctive_arityOk p).mpr h

theorem Pred.not_mem_columnsRequiredList (t : Tag) (ps : List Pred) :
    t ∉ Pred.columnsRequiredList ps ↔ ∀ p, p ∈ ps → t ∉ p.columnsRequired := by
  induction ps with
  | nil => exact iff_of_true nofun nofun
  | cons p ps ih => rw [Pred.columnsRequiredList, List.mem_append, not_or, ih, List.forall_mem_cons]

theorem Pred.conjunctive_notCol (t : Tag) : Pred.Conjunctive (fun p => t ∉ p.columnsRequired) :=
  ⟨fun qs => by rw [Pred.columnsRequired]; exact Pred.not_mem_columnsRequiredList t qs, nofun⟩

theorem Pred.flattenAnd_cols (p : Pred) (ps : List Pred) (h : p.flattenAnd = some ps) (t : Tag)
    (ht : t ∈ Pred.columnsRequiredList ps) : t ∈ p.columnsRequired :=
  Decidable.not_not.mp fun hn => (Pred.not_mem_columnsRequiredList t ps).mpr
    ((Pred.flattenAnd_conj (Pred.conjunctive_notCol t) p ps h).mp hn) ht

theorem Pred.normalise_cols (p : Pred) (t : Tag) :
    t ∈ p.normalise.columnsRequired ↔ t ∈ p.columnsRequired :=
  Decidable.not_iff_not.mp (Pred.normalise_conj (Pred.conjunctive_notCol t) p)

def AllTriv (ps : List Pred) : Prop := ∀ x, x ∈ ps → x.asTrivial = some true

theorem AllTriv.nil : AllTriv [] := nofun

theorem AllTriv.cons (p : Pred) (ps : List Pred) : AllTriv (p :: ps) ↔ p.asTrivial = some true ∧ AllTriv ps :=
  List.forall_mem_cons

theorem Pred.asTrivialAnd_true (ps : List Pred) (acc : Option Bool) :
    Pred.asTrivialAnd ps acc = some true ↔ acc = some true ∧ AllTriv ps := by
  induction ps generalizing acc with
  | nil => exact (and_iff_left AllTriv.nil).symm
  | cons p ps ih =>
    rw [Pred.asTrivialAnd, AllTriv.cons]
    split
    · next hp => rw [hp]; exact ⟨nofun, fun h => nomatch h.2.1⟩
    · next hp => rw [ih, hp]; exact ⟨fun h => (nomatch h.1), fun h => nomatch h.2.1⟩
    · next hp => rw [ih, hp]; exact ⟨fun h => ⟨h.1, rfl, h.2⟩, fun h => ⟨h.1, h.2.2⟩⟩

theorem Pred.conjunctive_true : Pred.Conjunctive (fun p => p.asTrivial = some true) :=
  ⟨fun qs => by rw [Pred.asTrivial, Pred.asTrivialAnd_true]; exact and_iff_right rfl, rfl⟩

theorem Pred.flattenAndList_true : (qs : List Pred) → (ps : List Pred) →
    Pred.flattenAndList qs = some ps → (AllTriv qs ↔ AllTriv ps) :=
  fun qs ps h => (Pred.conjunctive_true.and qs).symm.trans (Pred.flattenAnd_conj Pred.conjunctive_true (.and qs) ps h)

theorem Pred.normalise_true (p : Pred) : p.normalise.asTrivial = some true ↔ p.asTrivial = some true :=
  Pred.normalise_conj Pred.conjunctive_true p

theorem mkSel_and_trivial (q p : Pred) (s : Pred) (h : UOp.mkSel (.and [q, p]) = .sel s)
    (ht : s.asTrivial = some true) : q.asTrivial = some true ∧ p.asTrivial = some true := by
  cases h
  have hall := (Pred.conjunctive_true.and [q, p]).mp ((Pred.normalise_true _).mp ht)
  exact ⟨hall q (.head _), hall p (.tail _ (.head _))⟩

end DafRel
