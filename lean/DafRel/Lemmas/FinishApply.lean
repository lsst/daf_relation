/-
`simplify` (merging / eliding adjacent operations) is sound and total, by cases of its definition.

`UnaryOperation._finish_apply` (with its recursive re-simplification) preserves well-formedness, truthfulness and -
the point of C05 - the reference semantics, by induction along its definition.  It also preserves key-determinedness
and every tree invariant that survives dropping and adding a unary node (`finishApply_pres`), such as what the
iteration engine needs of the operations (`UOp.execOK`).
-/
import DafRel.Lemmas.Lex
import DafRel.Lemmas.Trivial
import DafRel.Lemmas.Metadata
import DafRel.Lemmas.Dedup
import DafRel.Model.Apply

namespace DafRel

theorem UOp.mkSel_and_sem (q p : Pred) (c1 c2 c3 : Cols) (l : List Row) :
    (UOp.mkSel (.and [q, p])).sem c1 l = (UOp.sel p).sem c2 ((UOp.sel q).sem c3 l) := by
  simp only [UOp.mkSel, UOp.sem, List.filter_filter]
  refine List.filter_congr fun r _ => ?_
  rw [Pred.normalise_val]
  simp [Pred.val, Pred.valAll, Bool.and_comm]

theorem mem_sortCols_sortThen {s ts : List SortTerm} {x : Tag} (h : x ∈ UOp.sortCols (UOp.sortThen s ts)) :
    x ∈ UOp.sortCols ts ∨ x ∈ UOp.sortCols s :=
  let ⟨t, ht, hx⟩ := (mem_sortCols _ x).mp h
  (mem_sortThen s ts t ht).imp (fun h => (mem_sortCols _ x).mpr ⟨t, h, hx⟩) fun h => (mem_sortCols _ x).mpr ⟨t, h, hx⟩

/-- **C05** for one pair, on a target with columns `tcols` and rows `l`: never an exception; `keepUpstream` means that
`new` does nothing; a replacement does what the two do in sequence, with the same columns, and is well-formed. -/
theorem simplify_sound (new up : UOp) (tcols : Cols) (l : List Row)
    (hup : up.wfOn tcols = true) (hnew : new.wfOn (up.appliedColumns tcols) = true) :
    match new.simplify up with
    | .error _ => False
    | .ok .no => True
    | .ok .keepUpstream =>
      ∀ c, new.sem c (up.sem (up.appliedColumns tcols) l) = up.sem (up.appliedColumns tcols) l
    | .ok (.replace m) =>
      (∀ c1 c2, m.sem c1 l = new.sem c2 (up.sem (up.appliedColumns tcols) l)) ∧
      m.appliedColumns tcols = new.appliedColumns (up.appliedColumns tcols) ∧
      m.wfOn tcols = true := by
  have hu := UOp.subset_of_wfOn hup
  have hn := UOp.subset_of_wfOn hnew
  -- cases 1, 2, 5: `new` is the identity, `[0:]` or a sort on no terms; cases 3, 6, 8, 10, 12: the merges
  -- slice/slice, sort/sort, selection/selection, projection/projection, projection/calculation
  fun_cases UOp.simplify new up
  case case1 => exact fun _ => rfl
  case case2 s e h0 =>
    simp only [Bool.and_eq_true, beq_iff_eq, Option.isNone_iff_eq_none] at h0
    obtain ⟨rfl, rfl⟩ := h0
    exact fun _ => sliceList_zero_none _
  case case3 s e _ s0 e0 =>
    simp only [sliceThen_eq, Except.map]
    exact ⟨fun _ _ => (sliceList_sliceList s0 e0 s e l).symm, rfl, rfl⟩
  case case5 ts h0 =>
    obtain rfl := List.isEmpty_iff.mp h0
    exact fun _ => isort_lexLe_nil _
  case case6 ts _ ts0 =>
    refine ⟨fun _ _ => ?_, rfl, UOp.wfOn_of_subset _ _ (fun c hc => ?_) nofun⟩
    · exact isort_sortThen ts0 ts l
    · exact (mem_sortCols_sortThen hc).elim (hn c) (hu c)
  case case8 p q =>
    refine ⟨fun _ _ => ?_, rfl, UOp.wfOn_of_subset _ _ (fun t ht => ?_) nofun⟩
    · exact UOp.mkSel_and_sem q p _ _ _ l
    · have := (Pred.normalise_cols _ t).mp ht
      simp only [Pred.columnsRequired, Pred.columnsRequiredList, List.append_nil, List.mem_append] at this
      exact this.elim (hu t) (hn t)
  case case10 c c0 =>
    refine ⟨fun _ _ => ?_, rfl, UOp.wfOn_of_subset _ _ (fun t ht => hu t (hn t ht)) nofun⟩
    simp only [UOp.sem, List.map_map]
    exact List.map_congr_left fun r _ => (Row.restrict_restrict r c c0 hn).symm
  case case12 c tag e htag =>
    refine ⟨fun _ _ => ?_, rfl, UOp.wfOn_of_subset _ _ (fun t ht => ?_) nofun⟩
    · simp only [UOp.sem, List.map_map]
      exact List.map_congr_left fun r _ => (Row.restrict_set r c tag _ htag).symm
    · exact ((Cols.mem_insert tcols tag t).mp (hn t ht)).elim id fun h => absurd (h ▸ ht) htag
  all_goals exact trivial  -- no merge

theorem simplify_total (new up : UOp) : ∀ e, new.simplify up ≠ .error e := by
  intro e
  -- 3 is slice/slice (numbered as in `simplify_sound`), the one branch that calls something that could raise
  fun_cases UOp.simplify new up
  case case3 => rw [sliceThen_eq]; nofun
  all_goals nofun

theorem simplify_replace_inv {new up s : UOp} (h : new.simplify up = .ok (.replace s)) :
    (∃ s0 e0 s1 e1, up = .slice s0 e0 ∧ new = .slice s1 e1 ∧ s = .slice (s0 + s1) (sliceThenStop s0 e0 s1 e1)) ∨
    (∃ ts0 ts, up = .sort ts0 ∧ new = .sort ts ∧ s = .sort (UOp.sortThen ts0 ts)) ∨
    (∃ q p, up = .sel q ∧ new = .sel p ∧ s = UOp.mkSel (.and [q, p])) ∨
    (∃ c, new = .proj c ∧ s = .proj c) := by
  revert h
  -- the merges, numbered as in `simplify_sound`: 3 slice/slice, 6 sort/sort, 8 selection/selection, 10/12 projection
  fun_cases UOp.simplify new up <;> intro h
  case case3 => rw [sliceThen_eq] at h; cases h; exact .inl ⟨_, _, _, _, rfl, rfl, rfl⟩
  case case6 => cases h; exact .inr (.inl ⟨_, _, rfl, rfl, rfl⟩)
  case case8 => cases h; exact .inr (.inr (.inl ⟨_, _, rfl, rfl, rfl⟩))
  case case10 | case12 => cases h; exact .inr (.inr (.inr ⟨_, rfl, rfl⟩))
  all_goals cases h

theorem simplify_notDedup (new up s : UOp) (h : new.simplify up = .ok (.replace s)) : s.isDedup = false := by
  rcases simplify_replace_inv h with
    ⟨_, _, _, _, -, -, rfl⟩ | ⟨_, _, -, -, rfl⟩ | ⟨_, _, -, -, rfl⟩ | ⟨_, -, rfl⟩ <;> rfl

theorem simplify_notIdentity (new up s : UOp) (h : new.simplify up = .ok (.replace s)) : s.isIdentity = false := by
  rcases simplify_replace_inv h with
    ⟨_, _, _, _, -, -, rfl⟩ | ⟨_, _, -, -, rfl⟩ | ⟨_, _, -, -, rfl⟩ | ⟨_, -, rfl⟩ <;> rfl

/-- What the iteration engine needs of an operation it is to execute. -/
def UOp.execOK (op : UOp) : Prop := op.isIdentity = false ∧ op.arityOk = true

theorem simplify_execOK (new up s : UOp) (h : new.simplify up = .ok (.replace s))
    (hn : new.execOK) (hu : up.execOK) : s.execOK := by
  rcases simplify_replace_inv h with
    ⟨_, _, _, _, -, -, rfl⟩ | ⟨ts0, ts, rfl, rfl, rfl⟩ | ⟨q, p, rfl, rfl, rfl⟩ | ⟨_, -, rfl⟩
  · exact ⟨rfl, rfl⟩
  · refine ⟨rfl, List.all_eq_true.mpr fun t ht => ?_⟩
    exact (mem_sortThen ts0 ts t ht).elim (List.all_eq_true.mp hn.2 t) (List.all_eq_true.mp hu.2 t)
  · refine ⟨rfl, Pred.normalise_arityOk _ ?_⟩
    have h1 : p.arityOk = true := hn.2
    have h2 : q.arityOk = true := hu.2
    simp [Pred.arityOk, Pred.arityOkList, h1, h2]
  · exact ⟨rfl, rfl⟩

/-- `simplify` hands the upstream operation back only for an operation that does nothing, whatever the columns:
the identity, `[0:]`, a sort on no terms.  `_finish_apply` has returned the target for these before it calls
`simplify`. -/
theorem simplify_keepUpstream_inv {new up : UOp} (h : new.simplify up = .ok .keepUpstream) (c : Cols) :
    new.noopOn c = true := by
  revert h
  fun_cases UOp.simplify new up <;> intro h
  case case1 => rfl
  case case2 _ _ h0 | case5 _ h0 => exact h0
  case case3 => rw [sliceThen_eq] at h; cases h
  all_goals cases h

@[simp] theorem Res.get_same (t : Rel) : Res.same.get t = t := rfl
@[simp] theorem Res.get_new (r t : Rel) : (Res.new r).get t = r := rfl
theorem Res.isSame_iff {r : Res} : r.isSame = true ↔ r = .same := by
  cases r <;> simp [Res.isSame]

theorem construct_eq_ok {op : UOp} {t : Rel} {res : Res} :
    op.construct t = .ok res ↔
      op.isSupportedBy t.engine.kind = true ∧ res = .new (.unary op t (op.appliedColumns t.columns)) := by
  unfold UOp.construct
  cases op.isSupportedBy t.engine.kind
  · exact ⟨nofun, nofun⟩
  · exact ⟨fun h => ⟨rfl, (Except.ok.inj h).symm⟩, fun h => h.2 ▸ rfl⟩

theorem construct_eq_error {op : UOp} {t : Rel} {e : Err} :
    op.construct t = .error e ↔ op.isSupportedBy t.engine.kind = false ∧ e = .engine := by
  unfold UOp.construct
  cases op.isSupportedBy t.engine.kind
  · exact ⟨fun h => ⟨rfl, (Except.error.inj h).symm⟩, fun h => h.2 ▸ rfl⟩
  · exact ⟨nofun, nofun⟩

theorem construct_get (op : UOp) (t : Rel) (res : Res) (h : op.construct t = .ok res) :
    res.get t = .unary op t (op.appliedColumns t.columns) :=
  (construct_eq_ok.mp h).2 ▸ rfl

theorem finishApply_noop (op : UOp) (t : Rel) (h : op.noopOn t.columns = true) :
    op.finishApply t = .ok .same := by
  fun_cases UOp.finishApply op t <;> first | rfl | contradiction

theorem finishApply_identity (t : Rel) : UOp.identity.finishApply t = .ok .same :=
  finishApply_noop .identity t rfl

structure FinishOK (σ : Leaves) (op : UOp) (t t' : Rel) : Prop where
  wf : t'.WF
  truthful : t'.Truthful σ
  sem_eq : sem σ t' = op.sem (op.appliedColumns t.columns) (sem σ t)
  cols : ∀ c, c ∈ t'.columns ↔ c ∈ op.appliedColumns t.columns
  engine : t'.engine = t.engine

theorem UOp.sem_applied_congr (op : UOp) {c1 c2 : Cols} (h : ∀ x, x ∈ c1 ↔ x ∈ c2) (l : List Row) :
    op.sem (op.appliedColumns c1) l = op.sem (op.appliedColumns c2) l :=
  UOp.sem_congr op _ _ (UOp.appliedColumns_congr op _ _ h) l

/-- `FinishOK` read against any description `L`, `C` of the rows and columns of the relation the operation was
applied to. -/
theorem FinishOK.on {σ : Leaves} {op : UOp} {x r : Rel} (F : FinishOK σ op x r) {L : List Row} {C : Cols}
    (hs : sem σ x = L) (hc : ∀ c, c ∈ x.columns ↔ c ∈ C) :
    sem σ r = op.sem (op.appliedColumns C) L ∧ ∀ c, c ∈ r.columns ↔ c ∈ op.appliedColumns C :=
  ⟨by rw [F.sem_eq, hs]; exact op.sem_applied_congr hc L, fun c => (F.cols c).trans (UOp.appliedColumns_congr op _ _ hc c)⟩

theorem FinishOK.of_same {σ : Leaves} {op : UOp} {x t r : Rel} (F : FinishOK σ op x r) (hs : sem σ x = sem σ t)
    (hc : ∀ c, c ∈ x.columns ↔ c ∈ t.columns) (he : x.engine = t.engine) : FinishOK σ op t r :=
  ⟨F.wf, F.truthful, (F.on hs hc).1, (F.on hs hc).2, F.engine.trans he⟩

theorem noop_sound (σ : Leaves) (op : UOp) (t : Rel) (hwf : t.WF) (htr : t.Truthful σ)
    (hn : op.noopOn t.columns = true) : FinishOK σ op t t := by
  cases op with
  | «calc» _ _ | dedup => cases hn
  | identity => exact ⟨hwf, htr, rfl, fun _ => Iff.rfl, rfl⟩
  | proj c =>
    have hn := (Cols.seteq_iff _ _).mp hn
    have keys := (metadata_truthful σ t hwf htr).keys
    refine ⟨hwf, htr, ?_, fun x => (hn x).symm, rfl⟩
    exact ((List.map_congr_left fun r hr => Row.restrict_self (keys r hr) hn).trans (List.map_id _)).symm
  | sel p =>
    have hn : p.asTrivial = some true := beq_iff_eq.mp hn
    exact ⟨hwf, htr, (List.filter_eq_self.mpr fun r _ => Pred.asTrivial_val r p true hn).symm, fun _ => Iff.rfl, rfl⟩
  | slice s e =>
    simp only [UOp.noopOn, Bool.and_eq_true, beq_iff_eq, Option.isNone_iff_eq_none] at hn
    obtain ⟨rfl, rfl⟩ := hn
    exact ⟨hwf, htr, (sliceList_zero_none _).symm, fun _ => Iff.rfl, rfl⟩
  | sort ts =>
    obtain rfl : ts = [] := List.isEmpty_iff.mp hn
    exact ⟨hwf, htr, (isort_lexLe_nil _).symm, fun _ => Iff.rfl, rfl⟩

/-- **C05.** Whatever merging or elision happens, the resulting tree is well-formed and evaluates to the operation
applied to the target's rows. -/
theorem finishApply_sound (σ : Leaves) : (t : Rel) → (op : UOp) → t.WF → t.Truthful σ →
    op.wfOn t.columns = true → (res : Res) → op.finishApply t = .ok res →
    FinishOK σ op t (res.get t) := by
  intro t op hwf htr hop res h
  -- the branches of `UOp.finishApply`, on a unary target: 1 nothing to do, 2 `simplify` raises, 3 `simplify` hands
  -- the upstream operation back (never reached: 1 has caught these), 4/5 merge (the recursive call raises/returns),
  -- 6 no merge; on any other target: 7 nothing to do, 8 construct
  fun_induction UOp.finishApply op t generalizing res with
  | case1 op _ _ c hn | case7 op _ _ hn => cases h; exact noop_sound σ op _ hwf htr hn
  | case2 | case4 => cases h
  | case6 op | case8 op =>
    rw [construct_get op _ res h]
    exact ⟨⟨hwf, rfl, hop⟩, htr, rfl, fun _ => Iff.rfl, rfl⟩
  | case3 op up t' c hn hs => exact absurd (simplify_keepUpstream_inv hs c) hn
  | case5 op up t' c _ s hs r hr ih =>
    cases h
    obtain ⟨hwt, rfl, hup⟩ := hwf
    have hss := simplify_sound op up t'.columns (sem σ t') hup hop
    rw [hs] at hss
    obtain ⟨hsem, hcols, hswf⟩ := hss
    have ih := ih hwt htr hswf r hr
    exact ⟨ih.wf, ih.truthful, ih.sem_eq.trans (hsem _ _), fun x => (ih.cols x).trans (by rw [hcols]; rfl), ih.engine⟩

/-- On any tree and for any operation, valid or not, `_finish_apply` raises nothing but the `EngineError` of the
construction step: `simplify` never raises. -/
theorem finishApply_error_inv {op : UOp} {t : Rel} {e : Err} (h : op.finishApply t = .error e) : e = .engine := by
  fun_induction UOp.finishApply op t with
  | case1 | case3 | case5 | case7 => cases h
  | case2 op up _ _ _ e' hs => exact absurd hs (simplify_total op up e')
  | case6 | case8 => exact (construct_eq_error.mp h).2
  | case4 _ _ _ _ _ _ _ _ hr ih => cases h; exact ih hr

theorem finishApply_pres (P : Rel → Prop) (Q Qu : UOp → Prop)
    (hdrop : ∀ up t c, P (.unary up t c) → P t ∧ Qu up)
    (hadd : ∀ op t c, P t → Q op → op.isSupportedBy t.engine.kind = true → P (.unary op t c))
    (hsimp : ∀ new up s, new.simplify up = .ok (.replace s) → Q new → Qu up → Q s)
    (t : Rel) (op : UOp) (res : Res) (hp : P t) (hq : Q op) (h : op.finishApply t = .ok res) : P (res.get t) := by
  fun_induction UOp.finishApply op t generalizing res with
  | case1 | case3 | case7 => cases h; exact hp
  | case2 | case4 => cases h
  | case5 op up t' c _ s hs r hr ih =>
    cases h
    have hd := hdrop up t' c hp
    exact ih r hd.1 (hsimp op up s hs hq hd.2) hr
  | case6 op | case8 op =>
    rw [construct_get op _ res h]; exact hadd _ _ _ hp hq (construct_eq_ok.mp h).1

/-- `finishApply_pres` for a tree predicate that does not look at unary nodes. -/
theorem finishApply_keeps (P : Rel → Prop) (hdrop : ∀ up t c, P (.unary up t c) → P t)
    (hadd : ∀ op t c, P t → P (.unary op t c)) (t : Rel) (op : UOp) (res : Res) (hp : P t)
    (h : op.finishApply t = .ok res) : P (res.get t) :=
  finishApply_pres P (fun _ => True) (fun _ => True) (fun up t c hp => ⟨hdrop up t c hp, trivial⟩)
    (fun op t c hp _ _ => hadd op t c hp) (fun _ _ _ _ _ _ => trivial) t op res hp trivial h

theorem finishApply_iterOK (t : Rel) (op : UOp) (res : Res) (ht : t.IterOK) (hop : op.execOK)
    (h : op.finishApply t = .ok res) : (res.get t).IterOK :=
  finishApply_pres Rel.IterOK UOp.execOK UOp.execOK
    (fun _ _ _ hp => hp) (fun _ _ _ hp hq _ => ⟨hp, hq⟩) simplify_execOK t op res ht hop h

/-- Whatever `_finish_apply` merges or elides, every node it creates is a concrete operation whose expressions
the node's engine supports. -/
theorem finishApply_engineOK (t : Rel) (op : UOp) (res : Res) (ht : t.EngineOK)
    (hop : op.isIdentity = false) (h : op.finishApply t = .ok res) : (res.get t).EngineOK :=
  finishApply_pres Rel.EngineOK (fun o => o.isIdentity = false) (fun _ => True)
    (fun _ _ _ hp => ⟨hp.1, trivial⟩) (fun _ _ _ hp hq hs => ⟨hp, hq, hs⟩)
    (fun new up s hs _ _ => simplify_notIdentity new up s hs) t op res ht hop h

/-- A deduplication is never the result of a merge, so its contract is needed only where
`_finish_apply` builds the node: on the target itself. -/
theorem finishApply_keyDetermined (σ : Leaves) (t : Rel) (op : UOp) (res : Res) (ht : keyDetermined σ t = true)
    (hop : op.isDedup = true → rowsKeyDetermined t.columns (sem σ t) = true)
    (h : op.finishApply t = .ok res) : keyDetermined σ (res.get t) = true := by
  fun_induction UOp.finishApply op t generalizing res with
  | case1 | case3 | case7 => cases h; exact ht
  | case2 | case4 => cases h
  | case5 op up t' c _ s hs r hr ih =>
    cases h
    exact ih r (Bool.and_eq_true_iff.mp ht).1 (fun hd => by rw [simplify_notDedup op up s hs] at hd; cases hd) hr
  | case6 op | case8 op =>
    rw [construct_get op _ res h]
    exact Bool.and_eq_true_iff.mpr ⟨ht, by cases op <;> first | rfl | exact hop rfl⟩

theorem finishApply_chain_same (op : UOp) (l r : Rel) (c : Cols)
    (h : op.finishApply (.binary .chain l r c) = .ok .same) : op.noopOn c = true := by
  unfold UOp.finishApply at h
  split at h
  · assumption
  · cases (construct_eq_ok.mp h).2

end DafRel
