/-
`PartialJoin._begin_apply` changes at most the common columns of the join, to what `Join.applied_common_columns` finds
(key columns of both operands; for a resolved join, its own): the case table `PJoin.beginApply_inv` and what is read
off it.  `PJoin.lhs` and `PJoin.rhs` are the operands of a partial join in their order.
-/
import DafRel.Model.Apply
import DafRel.Lemmas.WF

namespace DafRel

theorem JoinOp.appliedCommonColumns_of_not_resolved (j : JoinOp) (lcols rcols common : Cols) (hr : j.resolved = false)
    (h : j.appliedCommonColumns lcols rcols = .ok common) :
    (∀ t, t ∈ common → t ∈ lcols ∧ t ∈ rcols ∧ t.isKey = true) ∧ j.minCols.subset common = true := by
  unfold JoinOp.appliedCommonColumns at h
  simp only [hr, Bool.not_false, if_true] at h
  have base : ∀ t, t ∈ Cols.keys (Cols.inter lcols rcols) → t ∈ lcols ∧ t ∈ rcols ∧ t.isKey = true := by
    intro t hk
    have := List.mem_filter.mp hk
    have hin := List.mem_filter.mp this.1
    exact ⟨hin.1, by simpa using hin.2, this.2⟩
  -- without a cap on the common columns or with one: only the branch whose test `hsub` passed returns
  cases hm : j.maxCols <;> simp only [hm] at h <;> split at h <;> cases h
  · next hsub => exact ⟨base, hsub⟩
  · next hsub => exact ⟨fun t ht => base t (List.mem_filter.mp ht).1, hsub⟩

theorem JoinOp.appliedCommonColumns_of_resolved {j : JoinOp} (hr : j.resolved = true) (lcols rcols : Cols) :
    j.appliedCommonColumns lcols rcols = .ok j.minCols := by
  simp only [JoinOp.appliedCommonColumns, hr, Bool.not_true, Bool.false_eq_true, if_false]

theorem PJoin.beginApply_inv {p p' : PJoin} {x : Rel} {pref : Option Engine} {e : Engine}
    (h : p.beginApply x pref = .ok (p', e)) :
    e = pref.getD p.fixed.engine ∧ p'.columnsRequired.subset x.columns = true ∧
      ((p.join.resolved = true ∧ p' = p) ∨
        (p.join.resolved = false ∧ ∃ c, p.join.appliedCommonColumns p.fixed.columns x.columns = .ok c ∧
          p' = { p with join := { p.join with minCols := c, maxCols := some c } })) := by
  revert h
  fun_cases PJoin.beginApply p x pref <;> intro h
  -- the two raising exits: the resolution of the common columns raised, the column check failed
  case case1 | case2 => cases h
  -- `hq : resolve = .ok q`, the first step; `hc`: the column check was passed
  case case3 resolve q hq _ hc =>
  obtain ⟨rfl, rfl⟩ := Prod.mk.inj (Except.ok.inj h)
  have hres : (p.join.resolved = true ∧ q = p) ∨
      (p.join.resolved = false ∧ ∃ c, p.join.appliedCommonColumns p.fixed.columns x.columns = .ok c ∧
        q = { p with join := { p.join with minCols := c, maxCols := some c } }) := by
    cases hr : p.join.resolved with
    | true =>
      simp only [resolve, hr, Bool.not_true, Bool.false_eq_true, if_false] at hq
      cases hq
      exact Or.inl ⟨rfl, rfl⟩
    | false =>
      simp only [resolve, hr, Bool.not_false, if_true] at hq
      split at hq <;> cases hq
      next c hcc _ => exact Or.inr ⟨rfl, c, hcc, rfl⟩
  refine ⟨?_, by simpa using hc, hres⟩
  rcases hres with ⟨-, rfl⟩ | ⟨-, c, -, rfl⟩ <;> rfl

theorem pjBeginApply_frame (p : PJoin) (x : Rel) (pref : Option Engine) (p' : PJoin) (e : Engine)
    (h : p.beginApply x pref = .ok (p', e)) :
    p'.fixed = p.fixed ∧ p'.fixedIsLhs = p.fixedIsLhs ∧ p'.join.pred = p.join.pred ∧
      e = pref.getD p.fixed.engine ∧
      ((p.join.resolved = true → p.join.minCols.subset p.fixed.columns = true) →
        p'.join.minCols.subset p.fixed.columns = true) ∧
      p'.join.minCols.subset x.columns = true ∧
      p'.join.pred.columnsRequired.subset (p.fixed.columns.union x.columns) = true ∧
      p.join.appliedCommonColumns p.fixed.columns x.columns = .ok p'.join.minCols := by
  obtain ⟨he, hreq, hp'⟩ := PJoin.beginApply_inv h
  have h6 : p'.join.minCols.subset x.columns = true :=
    (Cols.subset_iff _ _).mpr fun t ht => Cols.mem_of_subset hreq ((Cols.mem_union _ _ _).mpr (Or.inr ht))
  -- what the predicate needs and the fixed operand lacks, the target must have
  have h7 : p'.join.pred.columnsRequired.subset (p'.fixed.columns.union x.columns) = true := by
    refine (Cols.subset_iff _ _).mpr fun t ht => (Cols.mem_union _ _ _).mpr ?_
    by_cases hf : t ∈ p'.fixed.columns
    · exact Or.inl hf
    · exact Or.inr (Cols.mem_of_subset hreq ((Cols.mem_union _ _ _).mpr (Or.inl ((Cols.mem_diff _ _ _).mpr ⟨ht, hf⟩))))
  rcases hp' with ⟨hr, rfl⟩ | ⟨hr, c, hc, rfl⟩
  · exact ⟨rfl, rfl, rfl, he, fun hfix => hfix hr, h6, h7, JoinOp.appliedCommonColumns_of_resolved hr _ _⟩
  · exact ⟨rfl, rfl, rfl, he, fun _ => (Cols.subset_iff _ _).mpr fun t ht =>
      ((JoinOp.appliedCommonColumns_of_not_resolved p.join _ _ c hr hc).1 t ht).1, h6, h7, hc⟩

theorem pjBeginApply_req (p : PJoin) (x : Rel) (pref : Option Engine) (p' : PJoin) (e : Engine)
    (h : p.beginApply x pref = .ok (p', e)) :
    p'.columnsRequired.subset x.columns = true ∧ p'.join.resolved = true := by
  obtain ⟨-, hreq, ⟨hr, rfl⟩ | ⟨-, c, -, rfl⟩⟩ := PJoin.beginApply_inv h
  · exact ⟨hreq, hr⟩
  · exact ⟨hreq, Cols.seteq_refl c⟩

/-- The operands of a partial join in their order. -/
def PJoin.lhs (p : PJoin) (t : Rel) : Rel := if p.fixedIsLhs then p.fixed else t
def PJoin.rhs (p : PJoin) (t : Rel) : Rel := if p.fixedIsLhs then t else p.fixed

theorem PJoin.sides_of (p : PJoin) (P : Rel → Prop) {x : Rel} (hf : P p.fixed) (hx : P x) :
    P (p.lhs x) ∧ P (p.rhs x) := by
  unfold PJoin.lhs PJoin.rhs
  cases p.fixedIsLhs
  · exact ⟨hx, hf⟩
  · exact ⟨hf, hx⟩

theorem PJoin.sides_rel (p : PJoin) (R : Rel → Rel → Prop) (hrefl : ∀ a, R a a) {x x' : Rel} (h : R x' x) :
    R (p.lhs x') (p.lhs x) ∧ R (p.rhs x') (p.rhs x) := by
  unfold PJoin.lhs PJoin.rhs
  cases p.fixedIsLhs
  · exact ⟨h, hrefl _⟩
  · exact ⟨hrefl _, h⟩

theorem PJoin.mem_union_sides (p : PJoin) (x : Rel) (t : Tag) :
    t ∈ (p.lhs x).columns.union (p.rhs x).columns ↔ t ∈ p.fixed.columns.union x.columns := by
  unfold PJoin.lhs PJoin.rhs
  cases p.fixedIsLhs
  · simp only [Bool.false_eq_true, if_false, Cols.mem_union]; exact Or.comm
  · exact Iff.rfl

end DafRel
