/-
Rows and row lists of the reference semantics, below the operations: a row with exactly the columns `c`
(`RowHasCols`) under `set`, `restrict` and `merge`, static well-formedness `wfOn` as a statement about
`columnsRequired`, and first occurrences by an arbitrary key function (`firstOccBy`; `firstOccAux` is an instance).
-/
import DafRel.Lemmas.Base
import DafRel.Lemmas.Sort
import DafRel.Lemmas.Slice
import DafRel.Spec.Preds

namespace DafRel

theorem Row.set_restrict_insert (r : Row) (c : Cols) (tag : Tag) (v : Int) :
    (r.set tag v).restrict (c.insert tag) = (r.restrict c).set tag v := by
  funext u
  unfold Row.restrict Row.set
  by_cases hu : u = tag
  · subst hu; simp [Cols.mem_insert]
  · simp [hu, Cols.mem_insert]

theorem Row.set_set_comm (r : Row) (t1 t2 : Tag) (v1 v2 : Int) (h : t1 ≠ t2) :
    (r.set t1 v1).set t2 v2 = (r.set t2 v2).set t1 v1 := by
  funext u
  unfold Row.set
  by_cases h1 : u = t1
  · subst h1; simp [h]
  · simp [h1]

theorem Row.set_of_ne (r : Row) (tag : Tag) (v : Int) {t : Tag} (h : t ≠ tag) : (r.set tag v) t = r t :=
  if_neg h

theorem Row.restrict_restrict (r : Row) (c c0 : Cols) (h : ∀ t, t ∈ c → t ∈ c0) :
    (r.restrict c0).restrict c = r.restrict c := by
  funext t
  unfold Row.restrict
  by_cases ht : t ∈ c
  · simp [ht, h t ht]
  · simp [ht]

theorem map_restrict_restrict (l : List Row) (c c0 : Cols) (h : ∀ t, t ∈ c → t ∈ c0) :
    (l.map (fun r => r.restrict c0)).map (fun r => r.restrict c) = l.map (fun r => r.restrict c) := by
  rw [List.map_map]
  exact List.map_congr_left fun r _ => Row.restrict_restrict r c c0 h

theorem map_map_congr {α β γ δ : Type} {f : α → β} {g : β → δ} {f' : α → γ} {g' : γ → δ} (l : List α)
    (h : ∀ a, g (f a) = g' (f' a)) : (l.map f).map g = (l.map f').map g' := by
  rw [List.map_map, List.map_map]
  exact List.map_congr_left fun a _ => h a

theorem Row.restrict_set (r : Row) (c : Cols) (tag : Tag) (v : Int) (h : tag ∉ c) :
    (r.set tag v).restrict c = r.restrict c := by
  funext t
  unfold Row.restrict Row.set
  by_cases ht : t ∈ c
  · have : t ≠ tag := fun e => h (e ▸ ht)
    simp [ht, this]
  · simp [ht]

theorem Row.restrict_congr (r : Row) (c1 c2 : Cols) (h : ∀ x, x ∈ c1 ↔ x ∈ c2) : r.restrict c1 = r.restrict c2 := by
  funext u
  unfold Row.restrict
  by_cases hu : u ∈ c1
  · simp [hu, (h u).mp hu]
  · have hu2 : u ∉ c2 := fun h2 => hu ((h u).mpr h2)
    simp [hu, hu2]

theorem Row.merge_right_of_some (a b : Row) (t : Tag) (h : (b t).isSome = true) : (a.merge b) t = b t := by
  unfold Row.merge
  cases hb : b t with
  | none => simp [hb] at h
  | some v => rfl

theorem Row.merge_left_of_none (a b : Row) (t : Tag) (h : b t = none) : (a.merge b) t = a t := by
  unfold Row.merge
  simp [h]

theorem Row.merge_empty_left (b : Row) : Row.empty.merge b = b := by
  funext u
  unfold Row.merge Row.empty
  cases b u <;> rfl

theorem Row.merge_empty_right (a : Row) : a.merge Row.empty = a := by
  funext u
  unfold Row.merge Row.empty
  rfl

theorem Row.agree_at (a b : Row) (c : Cols) (h : a.agree b c = true) (t : Tag) (ht : t ∈ c) : a t = b t :=
  beq_iff_eq.mp (List.all_eq_true.mp h t ht)

theorem Row.agree_congr {a a' b b' : Row} {c : Cols} (ha : ∀ t, t ∈ c → a' t = a t) (hb : ∀ t, t ∈ c → b' t = b t) :
    a'.agree b' c = a.agree b c := by
  unfold Row.agree
  rw [Bool.eq_iff_iff, List.all_eq_true, List.all_eq_true]
  exact forall_congr' fun t => forall_congr' fun ht => by rw [ha t ht, hb t ht]

theorem RowHasCols.set {r : Row} {c : Cols} (h : RowHasCols r c) (tag : Tag) (v : Int) :
    RowHasCols (r.set tag v) (c.insert tag) := by
  intro t
  rw [Cols.mem_insert, ← h t]
  unfold Row.set
  by_cases ht : t = tag <;> simp [ht]

theorem RowHasCols.restrict {r : Row} {c : Cols} (h : RowHasCols r c) (c' : Cols)
    (hsub : ∀ t, t ∈ c' → t ∈ c) : RowHasCols (r.restrict c') c' := by
  intro t
  unfold Row.restrict
  by_cases ht : t ∈ c'
  · simp [ht, (h t).mpr (hsub t ht)]
  · simp [ht]

theorem RowHasCols.merge {l r : Row} {cl cr : Cols} (hl : RowHasCols l cl) (hr : RowHasCols r cr) :
    RowHasCols (l.merge r) (cl.union cr) := by
  intro t
  rw [Cols.mem_union, ← hl t, ← hr t]
  unfold Row.merge
  cases r t <;> simp

theorem RowHasCols.congr {r : Row} {c c' : Cols} (h : RowHasCols r c) (hc : ∀ t, t ∈ c ↔ t ∈ c') :
    RowHasCols r c' := fun t => (h t).trans (hc t)

theorem RowHasCols.none_of_not_mem {r : Row} {c : Cols} (h : RowHasCols r c) (t : Tag) (ht : t ∉ c) : r t = none :=
  Option.not_isSome_iff_eq_none.mp fun hs => ht ((h t).mp hs)

theorem RowHasCols.merge_apply {b : Row} {c : Cols} (hb : RowHasCols b c) (a : Row) (u : Tag) :
    (a.merge b) u = if u ∈ c then b u else a u := by
  split
  · rename_i hu; exact Row.merge_right_of_some a b u ((hb u).mpr hu)
  · rename_i hu; exact Row.merge_left_of_none a b u (hb.none_of_not_mem u hu)

theorem Row.restrict_self {r : Row} {c c' : Cols} (h : RowHasCols r c) (hc : ∀ t, t ∈ c' ↔ t ∈ c) :
    r.restrict c' = r := by
  funext t
  unfold Row.restrict
  by_cases ht : t ∈ c'
  · simp [ht]
  · simp [ht, h.none_of_not_mem t fun hm => ht ((hc t).mpr hm)]

theorem map_restrict_self (l : List Row) (tcols c : Cols) (hl : RowsHaveCols l tcols)
    (hc : ∀ t, t ∈ c ↔ t ∈ tcols) : l.map (fun r => r.restrict c) = l := by
  have : l.map (fun r => r.restrict c) = l.map id :=
    List.map_congr_left fun r hr => Row.restrict_self (hl r hr) hc
  rw [this, List.map_id]

/-! Rows and row lists written out: `fun t => if t = a then some x else if t = b then some y else none` has the
columns `[a, b]` by `(RowHasCols.none.ite_cons b y).ite_cons a x`. -/

theorem RowHasCols.none : RowHasCols (fun _ => none) [] := fun _ => ⟨nofun, nofun⟩

theorem RowHasCols.ite_cons (a : Tag) (x : Int) {r : Row} {c : Cols} (h : RowHasCols r c) :
    RowHasCols (fun t => if t = a then some x else r t) (a :: c) := by
  intro t
  by_cases ht : t = a
  · simp [ht]
  · simp [ht, h t]

theorem RowsHaveCols.nil (c : Cols) : RowsHaveCols [] c := nofun

theorem RowsHaveCols.cons {r : Row} {l : List Row} {c : Cols} (hr : RowHasCols r c) (hl : RowsHaveCols l c) :
    RowsHaveCols (r :: l) c := List.forall_mem_cons.mpr ⟨hr, hl⟩

theorem rowsHaveCols_isort {le : Row → Row → Bool} {l : List Row} {c : Cols} (h : RowsHaveCols l c) :
    RowsHaveCols (isort le l) c := fun r hr => h r ((mem_isort le r l).mp hr)

theorem rowsHaveCols_filter {p : Row → Bool} {l : List Row} {c : Cols} (h : RowsHaveCols l c) :
    RowsHaveCols (l.filter p) c := fun r hr => h r (List.mem_filter.mp hr).1

theorem UOp.wfOn_of_subset (op : UOp) (c : Cols) (h : ∀ t, t ∈ op.columnsRequired → t ∈ c)
    (hc : ∀ tag e, op ≠ .calc tag e) : op.wfOn c = true := by
  unfold UOp.wfOn
  rw [Bool.and_eq_true, Cols.subset_iff]
  refine ⟨h, ?_⟩
  cases op <;> first | rfl | exact absurd rfl (hc _ _)

theorem UOp.subset_of_wfOn {op : UOp} {c : Cols} (h : op.wfOn c = true) :
    ∀ t, t ∈ op.columnsRequired → t ∈ c :=
  (Cols.subset_iff _ _).mp (Bool.and_eq_true _ _ ▸ h).1

theorem UOp.wfOn_proj (c x : Cols) : (UOp.proj c).wfOn x = c.subset x := by
  simp [UOp.wfOn, UOp.columnsRequired]

theorem UOp.wfOn_sel (p : Pred) (c : Cols) : (UOp.sel p).wfOn c = p.columnsRequired.subset c := by
  simp [UOp.wfOn, UOp.columnsRequired]

theorem UOp.wfOn_sort (ts : List SortTerm) (c : Cols) : (UOp.sort ts).wfOn c = (UOp.sortCols ts).subset c := by
  simp [UOp.wfOn, UOp.columnsRequired]

theorem UOp.wfOn_calc (tag : Tag) (e : Expr) (c : Cols) :
    (UOp.calc tag e).wfOn c = true ↔ e.columnsRequired.subset c = true ∧ tag ∉ c := by
  simp [UOp.wfOn, UOp.columnsRequired]

theorem UOp.wfOn_mono {s : UOp} {F U : Cols} (h : s.wfOn F = true) (hFU : ∀ t, t ∈ F → t ∈ U)
    (htag : ∀ tag e, s = .calc tag e → tag ∉ U) : s.wfOn U = true := by
  unfold UOp.wfOn at h ⊢
  rw [Bool.and_eq_true] at h ⊢
  refine ⟨Cols.subset_mono h.1 hFU, ?_⟩
  cases s with
  | «calc» tag e => exact decide_eq_true (htag tag e rfl)
  | _ => rfl

theorem UOp.mem_appliedColumns_mono (s : UOp) {F U : Cols} (hFU : ∀ t, t ∈ F → t ∈ U) {c : Tag}
    (h : c ∈ s.appliedColumns F) : c ∈ s.appliedColumns U := by
  cases s with
  | «calc» tag e => exact (Cols.mem_insert U tag c).mpr (((Cols.mem_insert F tag c).mp h).imp_left (hFU c))
  | proj _ => exact h
  | _ => exact hFU c h

theorem UOp.appliedColumns_congr (op : UOp) (c1 c2 : Cols) (h : ∀ x, x ∈ c1 ↔ x ∈ c2) :
    ∀ x, x ∈ op.appliedColumns c1 ↔ x ∈ op.appliedColumns c2 := by
  intro x
  cases op <;> simp only [UOp.appliedColumns, Cols.mem_insert, h]

theorem UOp.wfOn_congr (op : UOp) (c1 c2 : Cols) (h : ∀ x, x ∈ c1 ↔ x ∈ c2) :
    op.wfOn c1 = op.wfOn c2 := by
  unfold UOp.wfOn
  rw [Cols.subset_congr _ h]
  cases op <;> simp only [h]

/-- First occurrences with respect to an arbitrary observation `f` of a row; `firstOccAux cols` is the
case `f := (·.proj cols)`.  The lemmas about first occurrences are proved for `firstOccBy`. -/
def firstOccBy {β : Type} [DecidableEq β] (f : Row → β) (seen : List β) : List Row → List Row
  | [] => []
  | r :: rs => if f r ∈ seen then firstOccBy f seen rs else r :: firstOccBy f (f r :: seen) rs

theorem firstOccAux_eq_by (cols : Cols) (seen : List (List (Option Int))) (l : List Row) :
    firstOccAux cols seen l = firstOccBy (fun r => r.proj cols) seen l := by
  induction l generalizing seen with
  | nil => rfl
  | cons r rs ih =>
    simp only [firstOccAux, firstOccBy, List.contains_iff_mem, ih]

theorem firstOcc_eq_by (cols : Cols) (l : List Row) :
    firstOcc cols l = firstOccBy (fun r => r.proj cols) [] l :=
  firstOccAux_eq_by cols [] l

theorem firstOccBy_sublist {β : Type} [DecidableEq β] (f : Row → β) (seen : List β) (l : List Row) :
    (firstOccBy f seen l).Sublist l := by
  induction l generalizing seen with
  | nil => exact .slnil
  | cons r rs ih =>
    rw [firstOccBy]
    split
    · exact (ih _).cons _
    · exact (ih _).cons_cons _

theorem firstOccBy_spec {β : Type} [DecidableEq β] (f : Row → β) (seen : List β) (l : List Row) :
    (firstOccBy f seen l).Pairwise (fun a b => f a ≠ f b) ∧
      (∀ r, r ∈ firstOccBy f seen l → f r ∉ seen ∧ r ∈ l) := by
  induction l generalizing seen with
  | nil => exact ⟨.nil, nofun⟩
  | cons r rs ih =>
    rw [firstOccBy]
    split
    · exact ⟨(ih seen).1, fun x hx => ((ih seen).2 x hx).imp_right (.tail _)⟩
    · next hr =>
      have ⟨hp, hm⟩ := ih (f r :: seen)
      refine ⟨List.pairwise_cons.mpr ⟨fun x hx he => (hm x hx).1 (he ▸ .head _), hp⟩, fun x hx => ?_⟩
      rcases List.mem_cons.mp hx with rfl | hx
      · exact ⟨hr, .head _⟩
      · exact ⟨fun h => (hm x hx).1 (.tail _ h), .tail _ (hm x hx).2⟩

theorem mem_firstOccAux (cols : Cols) (seen : List (List (Option Int))) (l : List Row) (r : Row) :
    r ∈ firstOccAux cols seen l → r ∈ l := by
  rw [firstOccAux_eq_by]
  exact fun h => (firstOccBy_sublist _ seen l).subset h

theorem length_firstOccAux_le (cols : Cols) (seen : List (List (Option Int))) (l : List Row) :
    (firstOccAux cols seen l).length ≤ l.length := by
  rw [firstOccAux_eq_by]
  exact (firstOccBy_sublist _ seen l).length_le

theorem firstOcc_ne_nil (cols : Cols) (l : List Row) (h : l ≠ []) : firstOcc cols l ≠ [] := by
  cases l with
  | nil => exact absurd rfl h
  | cons x xs => simp [firstOcc, firstOccAux]

/-- First occurrences have pairwise different projections, and with no columns all projections are equal. -/
theorem length_firstOcc_noCols (cols : Cols) (h : cols.isEmpty = true) (l : List Row) :
    (firstOcc cols l).length ≤ 1 := by
  obtain rfl := Cols.eq_nil_of_isEmpty cols h
  have hp := (firstOccBy_spec (fun r : Row => r.proj []) [] l).1
  rw [← firstOcc_eq_by] at hp
  match firstOcc [] l, hp with
  | [], _ => exact Nat.zero_le 1
  | [_], _ => exact Nat.le_refl 1
  | a :: b :: _, hp => exact absurd rfl ((List.pairwise_cons.mp hp).1 b (.head _))

theorem UOp.sem_nil (op : UOp) (c : Cols) : op.sem c [] = [] := by
  cases op with
  | slice s e => cases e <;> simp [UOp.sem, sliceList]
  | _ => rfl

theorem joinRows_nil_left (c : Cols) (p : Pred) (rs : List Row) : joinRows c p [] rs = [] := by
  simp [joinRows]

theorem joinRows_nil_right (c : Cols) (p : Pred) (ls : List Row) : joinRows c p ls [] = [] := by
  simp [joinRows]

theorem joinRows_false (c : Cols) (p : Pred) (ls rs : List Row) (h : ∀ r, p.val r = false) :
    joinRows c p ls rs = [] := by
  simp [joinRows, h]

theorem length_joinRows_le (common : Cols) (p : Pred) (ls rs : List Row) :
    (joinRows common p ls rs).length ≤ ls.length * rs.length := by
  unfold joinRows
  induction ls with
  | nil => simp
  | cons l ls ih =>
    rw [List.flatMap_cons, List.length_append, List.length_map, List.length_cons, Nat.succ_mul, Nat.add_comm]
    exact Nat.add_le_add ih (List.length_filter_le _ rs)

theorem mem_joinRows (common : Cols) (p : Pred) (ls rs : List Row) (x : Row) :
    x ∈ joinRows common p ls rs → ∃ l r, l ∈ ls ∧ r ∈ rs ∧ x = l.merge r := by
  unfold joinRows
  simp only [List.mem_flatMap, List.mem_map, List.mem_filter]
  rintro ⟨l, hl, r, ⟨hr, _⟩, rfl⟩
  exact ⟨l, r, hl, hr, rfl⟩

end DafRel
