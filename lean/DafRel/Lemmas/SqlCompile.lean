/-
The two mutual inductions over the recursion budget of `_select_to_executable` / `to_payload`, on Good trees.
`compile_sound`: if the leaves and processed markers carry payloads that stand for their rows (`Rel.SqlReady`), the
emitted query returns, in the SQL evaluation model, exactly the rows - values, multiplicity, order - of the reference
semantics of the tree.  `compile_total` (C08): if they carry payloads exposing their columns (`Rel.PayReady`) and the
budget covers the tree's height, compilation succeeds - no missing-column lookup (`KeyError`) in a SELECT list,
ORDER BY, WHERE, ON or calculated column, no unsupported node.
-/
import DafRel.Lemmas.SqlSelectSem
import DafRel.Lemmas.ConformSound
import DafRel.Lemmas.SqlCompileEqs

namespace DafRel

variable {I : NodeInv}

/-- `(From.names p.frm).Nodup` makes the FROM names of the two operands of a join disjoint, which `paySem_join` needs
(for `merge_agree_left/right`), and `From.hasDup p.frm = false` asks the same inside every subquery; `select` asks
`q.hasDup = false` only, because `Query.hasDup` of a SELECT tests the names of its own FROM clause as well. -/
structure CompileOK (I : NodeInv) (σ : Leaves) (s : SqlState) (fuel : Nat) : Prop where
  select : ∀ S ctr q c, Good I σ S → S.isSelect = true → S.SqlReady s s.tables σ →
    compileSelect s fuel S ctr = .ok (q, c) → q.hasDup = false → (Query.eval s.tables q).rows = sem σ S
  payload : ∀ t ctr p c, Good I σ t → t.SqlReady s s.tables σ → toPayload s fuel t ctr = .ok (p, c) →
    From.hasDup p.frm = false → (From.names p.frm).Nodup → PaySem s.tables p (sem σ t) t.columns

theorem payloadSql_paySem (σ : Leaves) (s : SqlState) (t : Rel) (p : SqlPayload) (hrd : t.SqlReady s s.tables σ)
    (h : t.payloadSql s = some p) : PaySem s.tables p (sem σ t) t.columns := by
  cases t with
  | leaf | mat | transfer => obtain ⟨p0, hp0, P0⟩ := hrd; cases hp0.symm.trans h; exact P0
  | select =>
    rcases hrd with ⟨hnone, _⟩ | ⟨own, hown, Pown⟩
    · cases hnone.symm.trans h
    · cases hown.symm.trans h; exact Pown
  | unary | binary => cases h

theorem compile_sound (σ : Leaves) (s : SqlState) : ∀ fuel, CompileOK I σ s fuel := by
  intro fuel
  induction fuel with
  | zero => exact ⟨fun _ _ _ _ _ _ _ h _ => (nomatch h), fun _ _ _ _ _ _ h _ _ => (nomatch h)⟩
  | succ fuel ih =>
    constructor
    case payload =>
      intro t ctr p c gt hrd h hdup hnd
      cases hps : t.payloadSql s with
      | some p0 =>
        cases (toPayload_held hps).symm.trans h
        exact payloadSql_paySem σ s t _ hrd hps
      | none =>
      cases t with
      | leaf | mat | transfer => obtain ⟨p0, hp0, _⟩ := hrd; cases hp0.symm.trans hps
      | select oid so pr dd a b sk ic tg =>
        obtain ⟨q, c1, hc, rfl, rfl⟩ := (toPayload_select hps).mp h
        have hq := ih.select _ ctr q c1 gt rfl hrd hc (by simpa [From.hasDup] using hdup)
        exact paySem_subquery s.tables _ q _ _ hq gt.rows
      | unary op t' cc =>
        obtain ⟨gt', hwt, hcc, hopw⟩ := gt.unaryInv
        obtain ⟨hrd', hao⟩ := hrd
        simp only [sem, Rel.columns, hcc]
        cases op with
        | «calc» tag e =>
          obtain ⟨p0, x, h0, hx, rfl⟩ := toPayload_calc.mp h
          exact paySem_calc s.tables p0 _ _ tag e x (ih.payload t' ctr p0 c gt' hrd' h0 hdup hnd) gt'.rows
            ((UOp.wfOn_calc tag e _).mp hopw).1 hao hx
        | sel pr =>
          obtain ⟨p0, ws, h0, hw, rfl⟩ := toPayload_sel.mp h
          exact paySem_sel s.tables p0 _ _ pr ws (ih.payload t' ctr p0 c gt' hrd' h0 hdup hnd) gt'.rows
            (UOp.wfOn_sel pr _ ▸ hopw) hao hw
        | _ => exact nomatch toPayload_unary_inv h
      | binary bop l r cc =>
        obtain ⟨j, rfl⟩ := toPayload_binary_inv h
        obtain ⟨gl, gr, ⟨hwl, hwr, hcc, hml, hmr⟩, hpc⟩ := gt.joinInv
        obtain ⟨hrl, hrr, hja, hjr⟩ := hrd
        obtain ⟨pl, c1, pr, oc, ex, h1, h2, hoc, hex, rfl⟩ := (toPayload_join hjr).mp h
        simp only [From.hasDup, Bool.or_eq_false_iff] at hdup
        obtain ⟨ndl, ndr, hd⟩ := List.nodup_append.mp hnd
        simp only [sem, Rel.columns, hcc]
        exact paySem_join s.tables pl pr _ _ _ _ (ih.payload l ctr pl c1 gl hrl h1 hdup.1 ndl)
          (ih.payload r c1 pr c gr hrr h2 hdup.2 ndr) gl.rows gr.rows (fun s' h1' h2' => hd s' h1' s' h2' rfl) j.minCols
          ((Cols.subset_iff _ _).mp hml) ((Cols.subset_iff _ _).mp hmr) oc hoc j.pred hja hpc ex hex
    case select =>
      intro S ctr q c gS hs hrd h hdup
      obtain ⟨hS, gk⟩ := gS.selInv hs
      obtain ⟨oid, so, pr, dd, a, b, sk, ic, tg, rfl⟩ := Rel.isSelect_inv hs
      rcases hrd with ⟨hnone, hsk, har, hamb⟩ | ⟨own, hown, Pown⟩
      case inr =>  -- a payload attached to the Select itself; the case without one is the rest of the proof
        obtain ⟨items0, hit, rfl, rfl⟩ := (compileSelect_own hown).mp h
        have := select_level_sem s.tables own _ tg.columns ({} : Slots) tg.columns items0 [] Pown gS.rows
          (Slots.wfOn_empty _) (fun _ => Iff.rfl) hit rfl (fun t ht => by cases ht) (fun hd => by cases hd)
        rwa [Slots.sem_empty] at this
      have gk : Good I σ sk := gk
      have hsw : (⟨so, pr, dd, a, b⟩ : Slots).wfOn sk.columns := hS.slotsWF
      rw [hS.sem_eq]
      show _ = Slots.sem ⟨so, pr, dd, a, b⟩ sk.columns (sem σ sk)
      cases hch : isChain sk with
      | true =>  -- a UNION [ALL] of two Selects
        obtain ⟨l, r, cc, rfl⟩ := isChain_inv hch
        have hc := gS.compOK hs false
        simp only [Rel.compOK, Bool.and_eq_true] at hc
        obtain ⟨hl, hr⟩ := hc.1.1
        obtain ⟨ql, c1, qr, ob, h1, h2, hob, rfl⟩ := (compileSelect_chain hnone hl hr).mp h
        simp only [Query.hasDup, Bool.or_eq_false_iff] at hdup
        have e1 := ih.select _ ctr ql c1 gk.chainInv.1 hl hsk.1 h1 hdup.1
        have e2 := ih.select _ c1 qr c gk.chainInv.2 hr hsk.2.1 h2 hdup.2
        exact compound_level_sem s.tables ql qr _ _ (⟨so, pr, dd, a, b⟩ : Slots) ob
          (by rw [e1, e2]; rfl) gk.rows hsw (hS.compoundProj (by rw [hS.compound]; rfl)) hob har
      | false =>  -- one query level over the skip target's payload
        obtain ⟨p, items0, ob, hp, hit, hob, rfl⟩ := (compileSelect_level hnone hch).mp h
        simp only [Query.hasDup, Bool.or_eq_false_iff, Bool.not_eq_false', decide_eq_true_eq] at hdup
        have P : PaySem s.tables p (sem σ sk) sk.columns := by
          rcases hp with ⟨hps, _⟩ | ⟨_, hp⟩
          · exact payloadSql_paySem σ s sk p hsk hps
          · exact ih.payload sk ctr p c gk hsk hp hdup.1 hdup.2
        have htc : ∀ t, t ∈ tg.columns ↔ t ∈ (⟨so, pr, dd, a, b⟩ : Slots).columns sk.columns := hS.cols
        exact select_level_sem s.tables p _ sk.columns (⟨so, pr, dd, a, b⟩ : Slots) tg.columns items0 ob P
          gk.rows hsw htc hit hob har
          (fun hdd => Cols.subset_mono (hamb hdd) fun t => (htc t).mp)

theorem lookupItems_total (avail : List (Tag × SqlExpr)) (tcols : Cols)
    (h : ∀ t, t ∈ tcols → (SqlPayload.lookup avail t).isSome = true) :
    ∃ items, lookupItems avail tcols = some items :=
  mapM_option_total tcols (fun t ht => by rw [Option.isSome_map]; exact h t ht)

theorem orderByOf_total (avail : List (Tag × SqlExpr)) (ts : List SortTerm)
    (h : ∀ t, t ∈ UOp.sortCols ts → (SqlPayload.lookup avail t).isSome = true) :
    ∃ ob, orderByOf avail ts = .ok ob :=
  mapM_except_total ts (fun t ht => by
    obtain ⟨x, hx⟩ := convExpr_total avail t.expr (fun c hc => h c ((mem_sortCols ts c).mpr ⟨t, ht, hc⟩))
    exact ⟨(x, t.asc), by rw [hx]; rfl⟩)

theorem onCommon_total (la ra : List (Tag × SqlExpr)) (common : Cols)
    (h : ∀ t, t ∈ common → (SqlPayload.lookup la t).isSome = true ∧ (SqlPayload.lookup ra t).isSome = true) :
    ∃ oc, common.mapM (onCommonTerm la ra) = some oc :=
  mapM_option_total common (fun t ht => by
    obtain ⟨x, hx⟩ := Option.isSome_iff_exists.mp (h t ht).1
    obtain ⟨y, hy⟩ := Option.isSome_iff_exists.mp (h t ht).2
    simp [onCommonTerm, hx, hy])

theorem joinExtra_total (avail : List (Tag × SqlExpr)) (p : Pred)
    (h : ∀ t, t ∈ p.columnsRequired → (SqlPayload.lookup avail t).isSome = true) :
    ∃ ex, joinExtra avail p = .ok ex := by
  unfold joinExtra
  split
  · exact ⟨_, rfl⟩
  · exact convFlattened_total avail p h

theorem payloadSql_payDom (s : SqlState) (t : Rel) (p : SqlPayload) (hrd : t.PayReady s)
    (h : t.payloadSql s = some p) : PayDom p t.columns := by
  cases t with
  | leaf | mat | transfer => obtain ⟨p0, hp0, P0⟩ := hrd; cases hp0.symm.trans h; exact P0
  | select =>
    rcases hrd with ⟨hnone, _⟩ | ⟨own, hown, Pown⟩
    · cases hnone.symm.trans h
    · cases hown.symm.trans h; exact Pown
  | unary | binary => cases h

theorem Rel.height_binary {op : BOp} {l r : Rel} {c : Cols} {n : Nat} (h : (Rel.binary op l r c).height ≤ n + 1) :
    l.height ≤ n ∧ r.height ≤ n := by
  have := Nat.le_of_succ_le_succ h
  exact ⟨Nat.le_trans (Nat.le_max_left ..) this, Nat.le_trans (Nat.le_max_right ..) this⟩

/-- `Rel.height` counts a Select as 2 - one unit for `toPayload` handing it to `compileSelect`, one for `compileSelect`
going on to the skip target - so `select`, which starts one call later than `payload`, has `fuel + 1` for the same tree. -/
structure TotalOK (I : NodeInv) (σ : Leaves) (s : SqlState) (fuel : Nat) : Prop where
  select : ∀ S ctr, Good I σ S → S.isSelect = true → S.PayReady s → S.compOK false = true →
    S.height ≤ fuel + 1 → ∃ q c, compileSelect s fuel S ctr = .ok (q, c)
  payload : ∀ t ctr, Good I σ t → t.PayReady s → t.compOK false = true → t.height ≤ fuel →
    ∃ p c, toPayload s fuel t ctr = .ok (p, c) ∧ PayDom p t.columns

theorem compile_total (σ : Leaves) (s : SqlState) : ∀ fuel, TotalOK I σ s fuel := by
  intro fuel
  induction fuel with
  | zero =>
    refine ⟨fun S _ _ hs _ _ hh => ?_, fun t _ _ _ _ hh => ?_⟩
    · cases S with
      | select => exact absurd (Nat.le_of_succ_le_succ hh) (Nat.not_succ_le_zero _)
      | _ => cases hs
    · cases t <;> exact absurd hh (Nat.not_succ_le_zero _)
  | succ fuel ih =>
    constructor
    case payload =>
      intro t ctr gt hrd hsh hh
      cases hps : t.payloadSql s with
      | some p0 => exact ⟨p0, ctr, toPayload_held hps, payloadSql_payDom s t p0 hrd hps⟩
      | none =>
      cases t with
      | leaf | mat | transfer => obtain ⟨p0, hp0, _⟩ := hrd; cases hp0.symm.trans hps
      | select oid so pr dd a b sk ic tg =>
        obtain ⟨q, c1, hq⟩ := ih.select _ ctr gt rfl hrd hsh hh
        exact ⟨_, _, (toPayload_select hps).mpr ⟨q, c1, hq, rfl, rfl⟩, payDom_source (SqlPayload.lookup_subAvail _ _) _ _⟩
      | unary op t' cc =>
        obtain ⟨gt', hwt, hcc, hopw⟩ := gt.unaryInv
        have hh' : t'.height ≤ fuel := Nat.le_of_succ_le_succ hh
        simp only [Rel.columns, hcc]
        cases op with
        | «calc» tag e =>
          obtain ⟨p0, c1, h0, P0⟩ := ih.payload t' ctr gt' hrd hsh hh'
          obtain ⟨x, hx⟩ := convExpr_total p0.avail e (P0.isSome_of_subset ((UOp.wfOn_calc tag e _).mp hopw).1)
          exact ⟨_, c1, toPayload_calc.mpr ⟨p0, x, h0, hx, rfl⟩, payDom_calc p0 _ tag x P0⟩
        | sel pr =>
          obtain ⟨p0, c1, h0, P0⟩ := ih.payload t' ctr gt' hrd hsh hh'
          obtain ⟨ws, hw⟩ := convFlattened_total p0.avail pr
            (P0.isSome_of_subset ((UOp.wfOn_sel pr _).symm.trans hopw))
          exact ⟨_, c1, toPayload_sel.mpr ⟨p0, ws, h0, hw, rfl⟩, P0⟩
        | _ => cases hsh
      | binary bop l r cc =>
        cases bop with
        | join j =>
          obtain ⟨gl, gr, ⟨hwl, hwr, hcc, hml, hmr⟩, hpc⟩ := gt.joinInv
          obtain ⟨hrl, hrr, hjr⟩ := hrd
          simp only [Rel.compOK, Bool.and_eq_true] at hsh
          obtain ⟨hhl, hhr⟩ := Rel.height_binary hh
          obtain ⟨pl, c1, h1, Pl⟩ := ih.payload l ctr gl hrl hsh.1 hhl
          obtain ⟨pr, c2, h2, Pr⟩ := ih.payload r c1 gr hrr hsh.2 hhr
          obtain ⟨oc, hoc⟩ := onCommon_total pl.avail pr.avail j.minCols
            fun t ht => ⟨Pl.isSome_of_subset hml t ht, Pr.isSome_of_subset hmr t ht⟩
          have Pm : ∀ frm wh, PayDom { frm := frm, wh := wh, avail := availMerge pl.avail pr.avail } _ :=
            fun frm wh => payDom_merge pl pr l.columns r.columns frm wh Pl Pr
          obtain ⟨ex, hex⟩ := joinExtra_total (availMerge pl.avail pr.avail) j.pred
            ((Pm (.join pl.frm pr.frm []) []).isSome_of_subset hpc)
          simp only [Rel.columns, hcc]
          exact ⟨_, c2, (toPayload_join hjr).mpr ⟨pl, c1, pr, oc, ex, h1, h2, hoc, hex, rfl⟩, Pm _ _⟩
        | _ => cases hsh
    case select =>
      intro S ctr gS hs hrd hsh hh
      obtain ⟨hS, gk⟩ := gS.selInv hs
      obtain ⟨oid, so, pr, dd, a, b, sk, ic, tg, rfl⟩ := Rel.isSelect_inv hs
      rcases hrd with ⟨hnone, hsk⟩ | ⟨own, hown, Pown⟩
      case inr =>  -- a payload attached to the Select itself; the case without one is the rest of the proof
        obtain ⟨items, hit⟩ := lookupItems_total own.avail tg.columns (fun t ht => (Pown t).mpr ht)
        exact ⟨_, _, (compileSelect_own hown).mpr ⟨items, hit, rfl, rfl⟩⟩
      have gk : Good I σ sk := gk
      have hsw : (⟨so, pr, dd, a, b⟩ : Slots).wfOn sk.columns := hS.slotsWF
      have hhk : sk.height ≤ fuel := Nat.le_of_succ_le_succ (Nat.le_of_succ_le_succ hh)
      simp only [Rel.compOK] at hsh
      cases hch : isChain sk with
      | true =>  -- a UNION [ALL] of two Selects
        obtain ⟨l, r, cc, rfl⟩ := isChain_inv hch
        simp only [Rel.compOK, Bool.and_eq_true] at hsh
        obtain ⟨⟨⟨hl, hr⟩, hcl⟩, hcr⟩ := hsh
        obtain ⟨hhl, hhr⟩ := Rel.height_binary (Nat.le_succ_of_le (Nat.le_succ_of_le hhk))
        obtain ⟨ql, c1, h1⟩ := ih.select l ctr gk.chainInv.1 hl hsk.1 hcl hhl
        obtain ⟨qr, c2, h2⟩ := ih.select r c1 gk.chainInv.2 hr hsk.2.1 hcr hhr
        obtain ⟨ob, hob⟩ := orderByOf_total (subAvail "" (Rel.binary .chain l r cc).columns) so (fun t ht => by
          rw [SqlPayload.lookup_subAvail, if_pos (Cols.mem_of_subset hsw.1 ht)]; rfl)
        exact ⟨_, c2, (compileSelect_chain hnone hl hr).mpr ⟨ql, c1, qr, ob, h1, h2, hob, rfl⟩⟩
      | false =>  -- one level over a payload
        have htc : ∀ t, t ∈ tg.columns → t ∈ sk.columns :=
          fun t ht => Slots.columns_sub _ _ hsw t ((hS.cols t).mp ht)
        obtain ⟨p, c1, hp, P⟩ : ∃ p c1, (sk.payloadSql s = some p ∧ c1 = ctr ∨
            sk.payloadSql s = none ∧ toPayload s fuel sk ctr = .ok (p, c1)) ∧ PayDom p sk.columns := by
          cases hps : sk.payloadSql s with
          | some p0 => exact ⟨p0, ctr, Or.inl ⟨rfl, rfl⟩, payloadSql_payDom s sk p0 hsk hps⟩
          | none =>
            obtain ⟨p, c1, hp, P⟩ := ih.payload sk ctr gk hsk (compOK_false_of_not_chain sk hsh hch) hhk
            exact ⟨p, c1, Or.inr ⟨rfl, hp⟩, P⟩
        obtain ⟨items, hit⟩ := lookupItems_total p.avail tg.columns (fun t ht => (P t).mpr (htc t ht))
        obtain ⟨ob, hob⟩ := orderByOf_total p.avail so (P.isSome_of_subset hsw.1)
        exact ⟨_, c1, (compileSelect_level hnone hch).mpr ⟨p, items, ob, hp, hit, hob, rfl⟩⟩

theorem payReady_of_sqlReady (s : SqlState) (tables : List (List Row)) (σ : Leaves) :
    (t : Rel) → t.SqlReady s tables σ → t.PayReady s := by
  intro t h
  induction t with
  | leaf | mat | transfer => exact h.imp fun _ hp => ⟨hp.1, hp.2.dom⟩
  | unary _ t _ ih => exact ih h.1
  | binary op l r _ ihl ihr =>
    refine ⟨ihl h.1, ihr h.2.1, ?_⟩
    cases op with
    | join j => exact h.2.2.2
    | _ => trivial
  | select _ _ _ _ _ _ sk _ _ ih _ =>
    exact h.imp (fun h => ⟨h.1, ih h.2.1⟩) (fun h => h.imp fun _ hp => ⟨hp.1, hp.2.dom⟩)

end DafRel
