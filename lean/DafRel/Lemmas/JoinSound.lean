/-
Joins in the reference semantics: filters (`joinRows_filter`) and row maps on the operands (`joinRows_map`), of which
restricting them to visible columns is one - joining the restrictions equals restricting the joined rows, what the SQL
engine relies on when it strips the projection of a `Select` operand and re-projects after the join -, the join
identity, and `Join._finish_apply`.
-/
import DafRel.Lemmas.FinishApply
import DafRel.Lemmas.Dedup

namespace DafRel

theorem Row.merge_restrict (a b : Row) (lc rc cr : Cols) (hb : RowHasCols b cr)
    (hrc : ∀ u, u ∈ rc → u ∈ cr) (hhid : ∀ u, u ∈ cr → u ∉ rc → u ∉ lc) :
    (a.restrict lc).merge (b.restrict rc) = (a.merge b).restrict (lc.union rc) := by
  funext u
  unfold Row.merge Row.restrict
  by_cases hr : u ∈ rc
  · obtain ⟨v, hv⟩ := Option.isSome_iff_exists.mp ((hb u).mpr (hrc u hr))
    simp [hr, hv, Cols.mem_union]
  · by_cases hl : u ∈ lc
    · simp [hr, hl, Cols.mem_union, hb.none_of_not_mem u fun h => hhid u h hr hl]
    · simp [hr, hl, Cols.mem_union]

theorem Row.agree_restrict (a b : Row) (lc rc c : Cols) (hl : ∀ u, u ∈ c → u ∈ lc) (hr : ∀ u, u ∈ c → u ∈ rc) :
    (a.restrict lc).agree (b.restrict rc) c = a.agree b c :=
  Row.agree_congr (fun t ht => Row.restrict_of_mem a lc t (hl t ht)) fun t ht => Row.restrict_of_mem b rc t (hr t ht)

theorem joinRows_map (c : Cols) (q : Pred) (A B : List Row) (g h g' : Row → Row)
    (hj : ∀ a b, a ∈ A → b ∈ B →
      ((g a).agree (h b) c && q.val ((g a).merge (h b))) = (a.agree b c && q.val (a.merge b)))
    (hm : ∀ a b, a ∈ A → b ∈ B → (a.agree b c && q.val (a.merge b)) = true → (g a).merge (h b) = g' (a.merge b)) :
    joinRows c q (A.map g) (B.map h) = (joinRows c q A B).map g' := by
  unfold joinRows
  rw [List.map_flatMap, List.flatMap_map]
  refine flatMap_congr_mem fun a ha => ?_
  rw [List.filter_map, List.map_map, List.map_map]
  exact map_filter_congr (fun b hb => hj a b ha hb) fun b hb => hm a b ha hb

theorem joinRows_filter (c : Cols) (q : Pred) (A B : List Row) (pa pb pr : Row → Bool)
    (h : ∀ a b, a ∈ A → b ∈ B → a.agree b c = true → pr (a.merge b) = (pa a && pb b)) :
    joinRows c q (A.filter pa) (B.filter pb) = (joinRows c q A B).filter pr := by
  unfold joinRows
  rw [List.filter_flatMap, flatMap_filter_if]
  refine flatMap_congr_mem fun a ha => ?_
  rw [List.filter_map, List.filter_filter, List.filter_filter]
  have key : ∀ b, b ∈ B → (pr (a.merge b) && (a.agree b c && q.val (a.merge b))) =
      (pa a && ((a.agree b c && q.val (a.merge b)) && pb b)) := fun b hb => by
    cases hab : a.agree b c with
    | false => simp
    | true => rw [h a b ha hb hab]; cases pa a <;> cases pb b <;> simp
  simp only [Function.comp_apply, List.filter_congr key]
  cases pa a <;> simp

theorem joinRows_congr_common (c1 c2 : Cols) (p : Pred) (L R : List Row) (h : ∀ u, u ∈ c1 ↔ u ∈ c2) :
    joinRows c1 p L R = joinRows c2 p L R := by
  unfold joinRows
  simp only [Row.agree_congr_cols _ _ c1 c2 h]

/-- The side conditions: the common columns are visible on both sides, the predicate only needs visible columns, and
no hidden column of the right operand has the name of a visible column of the left one. -/
theorem joinRows_restrict (c : Cols) (p : Pred) (L R : List Row) (lc rc cr : Cols)
    (hR : RowsHaveCols R cr) (hrc : ∀ u, u ∈ rc → u ∈ cr) (hhid : ∀ u, u ∈ cr → u ∉ rc → u ∉ lc)
    (hcl : ∀ u, u ∈ c → u ∈ lc) (hcr : ∀ u, u ∈ c → u ∈ rc)
    (hp : p.columnsRequired.subset (lc.union rc) = true) :
    joinRows c p (L.map (fun r => r.restrict lc)) (R.map (fun r => r.restrict rc)) =
      (joinRows c p L R).map (fun r => r.restrict (lc.union rc)) :=
  joinRows_map c p L R _ _ _
    (fun a b _ hb => by
      rw [Row.agree_restrict a b lc rc c hcl hcr, Row.merge_restrict a b lc rc cr (hR b hb) hrc hhid,
        Pred.val_restrict p _ _ hp])
    fun a b _ hb _ => Row.merge_restrict a b lc rc cr (hR b hb) hrc hhid

theorem joinRows_identity_left (p : Pred) (R : List Row) (hp : ∀ r, p.val r = true) :
    joinRows [] p [Row.empty] R = R := by
  simp [joinRows, Row.agree, hp, Row.merge_empty_left]

theorem joinRows_identity_right (p : Pred) (L : List Row) (hp : ∀ r, p.val r = true) :
    joinRows [] p L [Row.empty] = L := by
  simp [joinRows, Row.agree, hp, Row.merge_empty_right]

theorem isJoinIdentity_cols (t : Rel) (h : t.isJoinIdentity = true) : t.columns = [] := by
  simp only [Rel.isJoinIdentity, Bool.and_eq_true] at h
  exact Cols.eq_nil_of_isEmpty _ h.1.1

/-- `Join._finish_apply`: an operand that is the join identity, under a trivially true predicate, gives the other one. -/
theorem binaryFinishApply_join_inv {j : JoinOp} {l r : Rel} {res : BRes}
    (h : binaryFinishApply (.join j) l r = .ok res) :
    (res = .rhs ∧ j.pred.asTrivial = some true ∧ l.isJoinIdentity = true) ∨
    (res = .lhs ∧ j.pred.asTrivial = some true ∧ r.isJoinIdentity = true) ∨
    res = .new (.binary (.join j) l r (l.columns.union r.columns)) := by
  generalize hop : BOp.join j = op at h
  revert h
  fun_cases binaryFinishApply op l r <;> intro h <;> cases hop <;> cases h
  · rename_i h1; exact .inl ⟨rfl, by simpa using h1⟩
  · rename_i h2; exact .inr (.inl ⟨rfl, by simpa using h2⟩)
  · exact .inr (.inr rfl)

/-- `Join._finish_apply(lhs, rhs)`, the base-class construction the SQL engine uses too. -/
theorem joinFinish_sound (σ : Leaves) (j : JoinOp) (nl nr : Rel) (hwl : nl.WF) (htl : nl.Truthful σ)
    (hwr : nr.WF) (htr : nr.Truthful σ) (hcl : j.minCols.subset nl.columns = true)
    (hcr : j.minCols.subset nr.columns = true) (heng : nl.engine = nr.engine) (res : BRes)
    (h : binaryFinishApply (.join j) nl nr = .ok res) :
    (res.get nl nr).WF ∧ (res.get nl nr).Truthful σ ∧
      sem σ (res.get nl nr) = joinRows j.minCols j.pred (sem σ nl) (sem σ nr) ∧
      (∀ c, c ∈ (res.get nl nr).columns ↔ c ∈ nl.columns.union nr.columns) ∧
      (res.get nl nr).engine = nl.engine := by
  rcases binaryFinishApply_join_inv h with ⟨rfl, htriv, hid⟩ | ⟨rfl, htriv, hid⟩ | rfl
  · -- the left operand is the join identity: one row without columns
    have hnil := isJoinIdentity_cols nl hid
    have hc : j.minCols = [] := Cols.eq_nil_of_subset_nil (hnil ▸ hcl)
    refine ⟨hwr, htr, ?_, fun c => by simp [BRes.get, hnil, Cols.mem_union], heng.symm⟩
    show sem σ nr = _
    rw [joinIdentity_sound σ nl hwl htl hid, hc,
      joinRows_identity_left _ _ fun r => Pred.asTrivial_val r j.pred true htriv]
  · have hnil := isJoinIdentity_cols nr hid
    have hc : j.minCols = [] := Cols.eq_nil_of_subset_nil (hnil ▸ hcr)
    refine ⟨hwl, htl, ?_, fun c => by simp [BRes.get, hnil, Cols.mem_union], rfl⟩
    show sem σ nl = _
    rw [joinIdentity_sound σ nr hwr htr hid, hc,
      joinRows_identity_right _ _ fun r => Pred.asTrivial_val r j.pred true htriv]
  · exact ⟨⟨hwl, hwr, rfl, hcl, hcr⟩, ⟨htl, htr⟩, rfl, fun _ => Iff.rfl, rfl⟩

end DafRel
