/-
`Select.apply_skip` (model `applySkip`): the Select it returns records the slots and skip target it was
given and marks a relation with the rows the slots prescribe, whatever merging `_finish_apply` did at the
top of the skip target (`applySkip_sound`), the slots read as a pipeline of four stages (`Slots.sem_eq`).

When `_finish_apply` can hand back a chain (`finishApply_not_chain`, which keeps the compound flag of a
re-wrapped Select right): never for a Calculation or Selection that returns a new relation.

`Good` trees (Spec/Select.lean): well-formedness, engine, inversions, the compilable shape `Rel.compOK`,
closure under `_finish_apply`.
-/
import DafRel.Lemmas.ApplySkipEqns
import DafRel.Lemmas.Base
import DafRel.Lemmas.FinishApply
import DafRel.Lemmas.Apply
import DafRel.Lemmas.Dedup
import DafRel.Spec.Select
import DafRel.Lemmas.Trivial

namespace DafRel

theorem applySkip_shape {k : Rel} {sl : Slots} {r : Rel} (h : applySkip k sl = .ok r) :
    ∃ t, r = .select 0 sl.sort sl.proj sl.dedup sl.sliceStart sl.sliceStop k (isChain k) t := by
  obtain ⟨_, _, _, _, _, _, t4, _, rfl⟩ := applySkip_eq_ok.mp h
  exact ⟨t4, rfl⟩

theorem applySkip_empty (k : Rel) : applySkip k {} = .ok (.select 0 [] none false 0 none k (isChain k) k) := by
  rw [applySkip_eq]
  rfl

theorem isort_lexLe_if (ts : List SortTerm) (l : List Row) :
    (if ts.isEmpty then l else isort (lexLe ts) l) = isort (lexLe ts) l := by
  split
  · rename_i h
    rw [List.isEmpty_iff.mp h, isort_lexLe_nil]
  · rfl

theorem sliceList_if {α : Type} (a : Nat) (b : Option Nat) (l : List α) :
    (if (a != 0 || b.isSome) = true then sliceList a b l else l) = sliceList a b l := by
  split
  · rfl
  · rename_i h
    simp only [Bool.or_eq_true, bne_iff_ne, ne_eq, Option.isSome_iff_ne_none, not_or, Decidable.not_not] at h
    rw [h.1, h.2]; rfl

def projOpt (p : Option Cols) (l : List Row) : List Row :=
  match p with
  | some c => l.map (fun r => r.restrict c)
  | none => l

def dedupIf (d : Bool) (cols : Cols) (l : List Row) : List Row := if d then firstOcc cols l else l

theorem Slots.sem_eq (sl : Slots) (cols : Cols) (l : List Row) :
    sl.sem cols l = sliceList sl.sliceStart sl.sliceStop
      (dedupIf sl.dedup (sl.columns cols) (projOpt sl.proj (isort (lexLe sl.sort) l))) := by
  simp only [Slots.sem, isort_lexLe_if, sliceList_if]
  rfl

theorem Slots.columns_none {sl : Slots} (h : sl.proj = none) (cols : Cols) : sl.columns cols = cols := by
  rw [Slots.columns, h]

theorem Slots.columns_some {sl : Slots} {c : Cols} (h : sl.proj = some c) (cols : Cols) : sl.columns cols = c := by
  rw [Slots.columns, h]

/-- One step of `apply_skip` as the stage `f` of the pipeline: `hon` when the step is taken, `hoff` when not. -/
theorem optStep_sound (σ : Leaves) {cond : Bool} {op : UOp} {t t' : Rel} {cols cols' : Cols}
    {f : List Row → List Row} (hwf : t.WF) (htr : t.Truthful σ) (hc : ∀ c, c ∈ t.columns ↔ c ∈ cols)
    (h : optStep cond op t = .ok t')
    (hon : cond = true → op.wfOn cols = true ∧ (∀ l, op.sem (op.appliedColumns cols) l = f l) ∧
      ∀ c, c ∈ op.appliedColumns cols ↔ c ∈ cols')
    (hoff : cond = false → (∀ l, f l = l) ∧ ∀ c, c ∈ cols ↔ c ∈ cols') :
    t'.WF ∧ t'.Truthful σ ∧ sem σ t' = f (sem σ t) ∧ (∀ c, c ∈ t'.columns ↔ c ∈ cols') ∧ t'.engine = t.engine := by
  revert h
  fun_cases optStep cond op t with
  | case1 => exact nofun
  | case2 hcond v hv =>
    intro h
    cases h
    obtain ⟨hop, hf, hcc⟩ := hon hcond
    have F := finishApply_sound σ t op hwf htr ((UOp.wfOn_congr op _ _ hc).trans hop) v hv
    obtain ⟨hs, ha⟩ := F.on rfl hc
    exact ⟨F.wf, F.truthful, hs.trans (hf _), fun c => (ha c).trans (hcc c), F.engine⟩
  | case3 hcond =>
    intro h
    cases h
    obtain ⟨hf, hcc⟩ := hoff (Bool.not_eq_true _ ▸ hcond)
    exact ⟨hwf, htr, (hf _).symm, fun c => (hc c).trans (hcc c), rfl⟩

theorem applySkip_sound (σ : Leaves) (k : Rel) (sl : Slots) (r : Rel) (hwf : k.WF) (htr : k.Truthful σ)
    (hsl : sl.wfOn k.columns) (h : applySkip k sl = .ok r) :
    r.WF ∧ r.Truthful σ ∧ sem σ r = sl.sem k.columns (sem σ k) ∧
      (∀ c, c ∈ r.columns ↔ c ∈ sl.columns k.columns) ∧ r.engine = k.engine := by
  obtain ⟨t1, h1, t2, h2, t3, h3, t4, h4, rfl⟩ := applySkip_eq_ok.mp h
  obtain ⟨w1, r1, s1, c1, e1⟩ := optStep_sound σ (f := isort (lexLe sl.sort)) (cols' := k.columns) hwf htr
    (fun _ => Iff.rfl) h1 (fun _ => ⟨(UOp.wfOn_sort _ _).trans hsl.1, fun _ => rfl, fun _ => Iff.rfl⟩)
    (fun he => ⟨fun l => by rw [← isort_lexLe_if, if_pos (by simpa using he)], fun _ => Iff.rfl⟩)
  obtain ⟨w2, r2, s2, c2, e2⟩ := optStep_sound σ (f := projOpt sl.proj) (cols' := sl.columns k.columns) w1 r1 c1 h2
    (fun hp => by
      obtain ⟨c, hp⟩ := Option.isSome_iff_exists.mp hp
      rw [hp, Slots.columns_some hp]
      exact ⟨(UOp.wfOn_proj c _).trans (hsl.2 c hp), fun _ => rfl, fun _ => Iff.rfl⟩)
    (fun hp => by
      rw [Option.isSome_eq_false_iff, Option.isNone_iff_eq_none] at hp
      rw [hp, Slots.columns_none hp]
      exact ⟨fun _ => rfl, fun _ => Iff.rfl⟩)
  obtain ⟨w3, r3, s3, c3, e3⟩ := optStep_sound σ (f := dedupIf sl.dedup (sl.columns k.columns))
    (cols' := sl.columns k.columns) w2 r2 c2 h3
    (fun hd => ⟨rfl, fun _ => by rw [hd]; rfl, fun _ => Iff.rfl⟩)
    (fun hd => ⟨fun _ => by rw [hd]; rfl, fun _ => Iff.rfl⟩)
  obtain ⟨w4, r4, s4, c4, e4⟩ := optStep_sound σ (f := sliceList sl.sliceStart sl.sliceStop)
    (cols' := sl.columns k.columns) w3 r3 c3 h4 (fun _ => ⟨rfl, fun _ => rfl, fun _ => Iff.rfl⟩)
    (fun hs => ⟨fun l => by rw [← sliceList_if, if_neg (by simp [hs])], fun _ => Iff.rfl⟩)
  refine ⟨w4, r4, ?_, c4, by show t4.engine = _; rw [e4, e3, e2, e1]⟩
  show sem σ t4 = _
  rw [s4, s3, s2, s1, Slots.sem_eq]

theorem Rel.isSelect_inv {S : Rel} (h : S.isSelect = true) :
    ∃ oid so pr dd a b sk ic tg, S = .select oid so pr dd a b sk ic tg := by
  cases S with
  | select => exact ⟨_, _, _, _, _, _, _, _, _, rfl⟩
  | _ => cases h

theorem isChain_inv {t : Rel} (h : isChain t = true) : ∃ l r cc, t = .binary .chain l r cc := by
  unfold isChain at h
  split at h
  · exact ⟨_, _, _, rfl⟩
  · cases h

theorem not_chain_of_select (S : Rel) (hs : S.isSelect = true) : isChain S = false := by
  obtain ⟨_, _, _, _, _, _, _, _, _, rfl⟩ := Rel.isSelect_inv hs
  rfl

/-- Of the operations that go below the slots only a Selection merges: with a Selection, into the conjunction. -/
theorem simplify_belowSlots_inv {new up s : UOp} (h : new.simplify up = .ok (.replace s))
    (hn : new.belowSlots = true) : ∃ q p, up = .sel q ∧ new = .sel p ∧ s = UOp.mkSel (.and [q, p]) := by
  rcases simplify_replace_inv h with ⟨_, _, _, _, -, rfl, -⟩ | ⟨_, _, -, rfl, -⟩ | h | ⟨_, rfl, -⟩
  · cases hn
  · cases hn
  · exact h
  · cases hn

/-- An operation applied below the slots never exposes a chain underneath: a merged predicate is
trivially true only when both parts are, and then the new Selection is dropped before merging. -/
theorem finishApply_not_chain {op : UOp} (hb : op.belowSlots = true) {t k : Rel}
    (h : op.finishApply t = .ok (.new k)) : isChain k = false := by
  fun_induction UOp.finishApply op t generalizing k with
  | case1 | case2 | case3 | case4 | case7 => cases h
  | case6 | case8 => cases (construct_eq_ok.mp h).2; rfl  -- a new unary node
  | case5 op up t' c hn s hs r hr ih =>
    cases h
    obtain ⟨q, p, rfl, rfl, rfl⟩ := simplify_belowSlots_inv hs hb
    cases r with
    | new k' => exact ih rfl hr
    | same =>
      -- `t'` itself came back: were it a chain, the conjunction would be trivially true, hence `p` too,
      -- and `p` would have been dropped before merging
      cases hch : isChain t' with
      | false => exact hch
      | true =>
        obtain ⟨l, r, cc, rfl⟩ := isChain_inv hch
        have htriv := finishApply_chain_same _ l r cc hr
        have hp := (mkSel_and_trivial q p _ rfl (by simpa [UOp.noopOn, UOp.mkSel] using htriv)).2
        simp [UOp.noopOn, hp] at hn

theorem sel_finish_not_chain : (t : Rel) → (p : Pred) → (k : Rel) →
    (UOp.sel p).finishApply t = .ok (.new k) → isChain k = false :=
  fun _ _ _ => finishApply_not_chain rfl

variable {I : NodeInv}

theorem Good.props {σ : Leaves} {t : Rel} (h : Good I σ t) : t.WF ∧ t.Truthful σ ∧ t.engine.kind = .sql := by
  induction h with
  | atom r _ hw ht he _ => exact ⟨hw, ht, he⟩
  | unary op t c _ hw ih => exact ⟨hw, ih.2.1, ih.2.2⟩
  | chain l r c _ _ hw ihl ihr => exact ⟨hw, ⟨ihl.2.1, ihr.2.1⟩, ihl.2.2⟩
  | join j l r c _ _ hw _ _ ihl ihr => exact ⟨hw, ⟨ihl.2.1, ihr.2.1⟩, ihl.2.2⟩
  | sel S hS he _ _ _ _ => exact ⟨hS.wf, hS.truthful, he⟩

theorem Good.wf {σ : Leaves} {t : Rel} (h : Good I σ t) : t.WF := h.props.1
theorem Good.truthful {σ : Leaves} {t : Rel} (h : Good I σ t) : t.Truthful σ := h.props.2.1
theorem Good.sql {σ : Leaves} {t : Rel} (h : Good I σ t) : t.engine.kind = .sql := h.props.2.2

theorem Rel.not_atom_of_select {r : Rel} (hs : r.isSelect = true) : r.isAtom = false := by
  obtain ⟨_, _, _, _, _, _, _, _, _, rfl⟩ := Rel.isSelect_inv hs
  rfl

theorem Good.selParts {σ : Leaves} {S : Rel} (h : Good I σ S) (hs : S.isSelect = true) :
    SelOK σ S ∧ S.skipTo.compOK true = true ∧ I.sel S ∧ Good I σ S.skipTo := by
  cases h with
  | sel S hS _ hsh hI gk => exact ⟨hS, hsh, hI, gk⟩
  | atom r ha => rw [Rel.not_atom_of_select hs] at ha; cases ha
  | unary | chain | join => cases hs

theorem Good.selInv {σ : Leaves} {S : Rel} (h : Good I σ S) (hs : S.isSelect = true) :
    SelOK σ S ∧ Good I σ S.skipTo :=
  ⟨(h.selParts hs).1, (h.selParts hs).2.2.2⟩

theorem Good.shape {σ : Leaves} {S : Rel} (h : Good I σ S) (hs : S.isSelect = true) :
    S.skipTo.compOK true = true :=
  (h.selParts hs).2.1

theorem Good.unaryInv {σ : Leaves} {op : UOp} {t : Rel} {c : Cols} (h : Good I σ (.unary op t c)) :
    Good I σ t ∧ (Rel.unary op t c).WF := by
  cases h with
  | atom r ha => cases ha
  | unary _ _ _ g w => exact ⟨g, w⟩
  | sel S hS => cases hS.isSel

theorem Good.chainInv {σ : Leaves} {l r : Rel} {c : Cols} (h : Good I σ (.binary .chain l r c)) :
    Good I σ l ∧ Good I σ r := by
  cases h with
  | atom r ha => cases ha
  | chain _ _ _ g1 g2 _ => exact ⟨g1, g2⟩
  | sel S hS => cases hS.isSel

theorem Good.joinInv {σ : Leaves} {j : JoinOp} {l r : Rel} {c : Cols} (h : Good I σ (.binary (.join j) l r c)) :
    Good I σ l ∧ Good I σ r ∧ (Rel.binary (.join j) l r c).WF ∧
      j.pred.columnsRequired.subset (l.columns.union r.columns) = true := by
  cases h with
  | atom r ha => cases ha
  | join _ _ _ _ g1 g2 w hp _ => exact ⟨g1, g2, w, hp⟩
  | sel S hS => cases hS.isSel

theorem Good.ofSel {σ : Leaves} {S : Rel} (ok : SelOK σ S) (hsh : S.skipTo.compOK true = true)
    (hI : I.sel S) (gk : Good I σ S.skipTo) : Good I σ S :=
  Good.sel S ok (by rw [ok.engine]; exact gk.sql) hsh hI gk

theorem Good.atomI {σ : Leaves} {r : Rel} (h : Good I σ r) (ha : r.isAtom = true) : I.atom r := by
  cases h with
  | atom r _ _ _ _ hI => exact hI
  | unary | chain | join => cases ha
  | sel _ hS => rw [Rel.not_atom_of_select hS.isSel] at ha; cases ha

theorem Good.rows {σ : Leaves} {t : Rel} (h : Good I σ t) : RowsHaveCols (sem σ t) t.columns :=
  (metadata_truthful σ t h.wf h.truthful).keys

/-- In either mode: as a skip target, or as a join operand or UNION branch. -/
theorem Good.compOK {σ : Leaves} {S : Rel} (h : Good I σ S) (hs : S.isSelect = true) (b : Bool) :
    S.compOK b = true := by
  have hk := h.shape hs
  obtain ⟨_, _, _, _, _, _, _, _, _, rfl⟩ := Rel.isSelect_inv hs
  cases b <;> exact hk

/-- The two modes of `compOK` differ on chains only, which are admitted directly as a skip target. -/
theorem compOK_false_eq (t : Rel) : t.compOK false = (t.compOK true && !isChain t) := by
  fun_cases Rel.compOK true t <;> simp [Rel.compOK, isChain]

theorem compOK_true_of_false (t : Rel) (h : t.compOK false = true) : t.compOK true = true := by
  rw [compOK_false_eq, Bool.and_eq_true] at h
  exact h.1

theorem compOK_false_of_not_chain (t : Rel) (h : t.compOK true = true) (hn : isChain t = false) :
    t.compOK false = true := by
  rw [compOK_false_eq, h, hn]
  rfl

theorem compOK_atom (t : Rel) (ha : t.isAtom = true) (b : Bool) : t.compOK b = true := by
  cases t with
  | leaf | mat | transfer => cases b <;> rfl
  | _ => cases ha

theorem finishApply_good (σ : Leaves) (t : Rel) (op : UOp) (res : Res) (gt : Good I σ t)
    (hop : op.wfOn t.columns = true) (h : op.finishApply t = .ok res) : Good I σ (res.get t) := by
  fun_induction UOp.finishApply op t generalizing res with
  | case1 | case3 | case7 => cases h; exact gt
  | case2 | case4 => cases h
  | case5 op up t' c _ s hs r hr ih =>
    cases h
    obtain ⟨gt', _, rfl, hup⟩ := gt.unaryInv
    have hss := simplify_sound op up t'.columns [] hup hop
    rw [hs] at hss
    exact ih r gt' hss.2.2 hr
  | case6 op | case8 op =>
    rw [construct_get op _ res h]
    exact Good.unary op _ _ gt ⟨gt.wf, rfl, hop⟩

theorem finishApply_compOK : (t : Rel) → (op : UOp) → (res : Res) → op.belowSlots = true →
    t.compOK false = true → op.finishApply t = .ok res → (res.get t).compOK false = true :=
  fun t op res hb ht h =>
    finishApply_pres (fun r => r.compOK false = true) (fun o => o.belowSlots = true) (fun o => o.belowSlots = true)
      (fun up t c hp => by
        cases up with
        | «calc» | sel => exact ⟨hp, rfl⟩
        | _ => cases hp)
      (fun op t c hp hq _ => by
        cases op with
        | «calc» | sel => exact hp
        | _ => cases hq)
      (fun _ _ _ hs hn _ => by obtain ⟨_, _, -, -, rfl⟩ := simplify_belowSlots_inv hs hn; rfl)
      t op res ht hb h

end DafRel
