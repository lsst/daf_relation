/-
Back-tracking of a JOIN (`PartialJoin`) from an iteration-engine relation into a SQL preferred engine (C03):
`backtrack_unary(PartialJoin, tree, preferred)` either leaves the tree alone (not done) or returns a relation with the
rows (as a multiset - a join defines no order) and columns of joining at the root (`BTJ`).  Around it,
`PartialJoin.apply` with every option combination: outside the database a join across engines is refused, so a
call that succeeds was back-tracked all the way or transferred.
-/
import DafRel.Lemmas.JoinCommute
import DafRel.Lemmas.SqlFactories
import DafRel.Lemmas.Backtrack

namespace DafRel

/-- What a finished back-tracking of the join `p` promises about the relation `tree'` it returns. -/
structure BTJ (σ : Leaves) (p : PJoin) (tree tree' : Rel) : Prop where
  wf : tree'.WF
  truthful : tree'.Truthful σ
  engine : tree'.engine = tree.engine
  rows : List.Perm (sem σ tree') (p.semRows (sem σ p.fixed) (sem σ tree))
  cols : ∀ x, x ∈ tree'.columns ↔ x ∈ p.appliedColumns tree.columns

theorem BTJ.transfer {σ : Leaves} {p : PJoin} {target t' : Rel} (h : BTJ σ p target t') (oid oid' : Nat)
    (dest : Engine) : BTJ σ p (.transfer oid dest target) (.transfer oid' dest t') :=
  ⟨h.wf, h.truthful, rfl, h.rows, h.cols⟩

theorem PJoin.joinRows_sides (p : PJoin) (σ : Leaves) (x : Rel) :
    joinRows p.join.minCols p.join.pred (sem σ (p.lhs x)) (sem σ (p.rhs x)) = p.semRows (sem σ p.fixed) (sem σ x) := by
  unfold PJoin.semRows PJoin.lhs PJoin.rhs
  split <;> rfl

theorem PJoin.mem_union_sides_appliedColumns (p : PJoin) (x : Rel) (c : Tag) :
    c ∈ (p.lhs x).columns.union (p.rhs x).columns ↔ c ∈ p.appliedColumns x.columns := by
  rw [p.mem_union_sides, Cols.mem_union, PJoin.mem_appliedColumns]

/-- `append_unary(PartialJoin, x)` in a database, in terms of the fixed relation and `x`. -/
theorem appendUnary_pj_joined {I : NodeInv} (σ : Leaves) (st : Store) (fuel : Nat) (p : PJoin) (x : Rel)
    (gx : Good I σ x) (gF : Good I σ p.fixed) (hfix : p.join.minCols.subset p.fixed.columns = true)
    (hx : p.join.minCols.subset x.columns = true)
    (hp : p.join.pred.columnsRequired.subset (p.fixed.columns.union x.columns) = true)
    (res : Res) (h : appendUnary st fuel (.pj p) x = .ok res) :
    ∃ T, res = .new T ∧ Good I σ T ∧ sem σ T = p.semRows (sem σ p.fixed) (sem σ x) ∧
      (∀ c, c ∈ T.columns ↔ c ∈ p.appliedColumns x.columns) ∧
      T.engine = if p.fixedIsLhs then p.fixed.engine else x.engine := by
  obtain ⟨hcl, hcr⟩ := p.sides_of (fun r => p.join.minCols.subset r.columns = true) hfix hx
  obtain ⟨T, hT, gT, -, semT, colT, engT⟩ := appendUnary_pj_sound σ st fuel p x gx gF hcl hcr
    (Cols.subset_mono hp fun t ht => (p.mem_union_sides x t).mpr ht) res h
  refine ⟨T, hT, gT, semT.trans (p.joinRows_sides σ x), fun c => (colT c).trans (p.mem_union_sides_appliedColumns x c), ?_⟩
  rw [engT]; unfold PJoin.lhs; split <;> rfl

theorem applyOp_pj_resolved {I : NodeInv} (σ : Leaves) (st : Store) (fuel : Nat) (p : PJoin) (x : Rel)
    (gx : Good I σ x) (gF : Good I σ p.fixed) (heng : p.fixed.engine = x.engine)
    (hres : p.join.resolved = true) (hfix : p.join.minCols.subset p.fixed.columns = true)
    (res : Res) (h : applyOp st fuel (.pj p) x {} = .ok res) :
    ∃ T, res = .new T ∧ Good I σ T ∧ sem σ T = p.semRows (sem σ p.fixed) (sem σ x) ∧
      (∀ c, c ∈ T.columns ↔ c ∈ p.appliedColumns x.columns) ∧ T.engine = x.engine := by
  obtain ⟨common, T, hT, gT, -, semT, colT, engT, -, -, hc⟩ :=
    applyOp_pj_sound σ st fuel p x {} gx gF rfl heng (fun _ => hfix) res h
  -- the common columns of a resolved join are its own
  obtain rfl : p.join.minCols = common := Except.ok.inj ((JoinOp.appliedCommonColumns_of_resolved hres _ _).symm.trans hc)
  exact ⟨T, hT, gT, semT.trans (p.joinRows_sides σ x), fun c => (colT c).trans (p.mem_union_sides_appliedColumns x c), engT⟩

/-- The operations a join commutes with preserve permutations. -/
theorem UOp.sem_perm (op : UOp) (hd : op.isDedup = false) (hc : op.isCountDependent = false) (c1 c2 : Cols)
    (l l' : List Row) (h : List.Perm l l') : List.Perm (op.sem c1 l) (op.sem c2 l') := by
  cases op with
  | «calc» tag e => exact List.Perm.map _ h
  | dedup => simp [UOp.isDedup] at hd
  | identity => exact h
  | proj c => exact List.Perm.map _ h
  | sel p => exact List.Perm.filter _ h
  | slice a b => simp [UOp.isCountDependent] at hc
  | sort ts => exact (isort_perm _ l).trans (h.trans (isort_perm _ l').symm)

theorem pjoin_commute_shape (p : PJoin) (cur : UOp) (tcols ccols : Cols)
    (h : (p.commute cur tcols ccols).1.isSome = true) :
    ((p.commute cur tcols ccols).2.1 = cur ∧ cur.isDedup = false ∧ cur.isCountDependent = false) ∨
    (∃ c', cur = .proj c' ∧ (p.commute cur tcols ccols).2.1 = .proj (p.appliedColumns ccols)) := by
  rcases PJoin.commute_cases p cur tcols ccols with hc | ⟨-, ⟨hc, -, h1, h2, -⟩ | ⟨c', h1, hc⟩⟩ <;> rw [hc] at h ⊢
  · cases h
  · exact Or.inl ⟨rfl, h1, h2⟩
  · exact Or.inr ⟨c', h1, rfl⟩

/-- `pjoin_commute_sound` (C04 for joins) for a join that moves past `cur`, as facts about the second operation of the
report, with what `UOp.sem_perm` asks of it. -/
theorem pj_report (σ : Leaves) (p : PJoin) (cur : UOp) (target : Rel)
    (hwft : target.WF) (htrt : target.Truthful σ) (hcur : cur.wfOn target.columns = true)
    (hF : RowsHaveCols (sem σ p.fixed) p.fixed.columns)
    (hp : p.columnsRequired.subset (cur.appliedColumns target.columns) = true)
    (f : PJoin) (hf : (p.commute cur target.columns (cur.appliedColumns target.columns)).1 = some f) :
    let second := (p.commute cur target.columns (cur.appliedColumns target.columns)).2.1
    let jc := p.appliedColumns target.columns
    second.wfOn jc = true ∧
    (∀ x, x ∈ second.appliedColumns jc ↔ x ∈ p.appliedColumns (cur.appliedColumns target.columns)) ∧
    List.Perm (second.sem (second.appliedColumns jc) (p.semRows (sem σ p.fixed) (sem σ target)))
      (p.semRows (sem σ p.fixed) (cur.sem (cur.appliedColumns target.columns) (sem σ target))) ∧
    second.isDedup = false ∧ second.isCountDependent = false := by
  have hC := pjoin_commute_sound p cur target.columns (sem σ p.fixed) (sem σ target)
    (metadata_truthful σ target hwft htrt).keys hF hcur hp
  unfold pjoinCommuteSoundAt at hC
  simp only [hf] at hC
  obtain ⟨rfl, -, -, hsw, hcols, hperm, -⟩ := hC
  refine ⟨hsw, hcols, hperm, ?_⟩
  rcases pjoin_commute_shape f cur target.columns (cur.appliedColumns target.columns) (by simp [hf]) with
    ⟨h, hd⟩ | ⟨c', -, h⟩ <;> rw [h]
  · exact hd
  · exact ⟨rfl, rfl⟩

/-- `second == cur`: the two are the same list function and the same column-set function. -/
theorem pj_second_beq (p : PJoin) (cur : UOp) (tcols ccols : Cols)
    (hs : (p.commute cur tcols ccols).1.isSome = true)
    (hbeq : ((p.commute cur tcols ccols).2.1 == cur) = true) :
    (∀ c rows, (p.commute cur tcols ccols).2.1.sem c rows = cur.sem c rows) ∧
    (∀ cols x, x ∈ (p.commute cur tcols ccols).2.1.appliedColumns cols ↔ x ∈ cur.appliedColumns cols) := by
  rcases pjoin_commute_shape p cur tcols ccols hs with ⟨h, _, _⟩ | ⟨c', h1, h2⟩
  · rw [h]; exact ⟨fun _ _ => rfl, fun _ _ => Iff.rfl⟩
  · subst h1
    rw [h2] at hbeq ⊢
    have hiff := (Cols.seteq_iff (p.appliedColumns ccols) c').mp hbeq
    exact ⟨fun _ rows => List.map_congr_left fun r _ => Row.restrict_congr r _ _ hiff, fun _ => hiff⟩

theorem btj_step (σ : Leaves) (p : PJoin) (cur : UOp) (target X : Rel) (r : Res)
    (hwft : target.WF) (htrt : target.Truthful σ) (hcur : cur.wfOn target.columns = true)
    (hF : RowsHaveCols (sem σ p.fixed) p.fixed.columns)
    (hp : p.columnsRequired.subset (cur.appliedColumns target.columns) = true)
    (f : PJoin) (hf : (p.commute cur target.columns (cur.appliedColumns target.columns)).1 = some f)
    (ih : BTJ σ p target X)
    (hfin : (p.commute cur target.columns (cur.appliedColumns target.columns)).2.1.finishApply X = .ok r) :
    BTJ σ p (.unary cur target (cur.appliedColumns target.columns)) (r.get X) := by
  obtain ⟨hsw, hcols, hperm, hd, hcd⟩ := pj_report σ p cur target hwft htrt hcur hF hp f hf
  generalize (p.commute cur target.columns (cur.appliedColumns target.columns)).2.1 = second at *
  have Fin := finishApply_sound σ X second ih.wf ih.truthful ((UOp.wfOn_congr second _ _ ih.cols).trans hsw) r hfin
  obtain ⟨hrs, hrc⟩ := Fin.on rfl ih.cols
  refine ⟨Fin.wf, Fin.truthful, Fin.engine.trans ih.engine, ?_, fun x => (hrc x).trans (hcols x)⟩
  rw [hrs]
  exact (UOp.sem_perm second hd hcd _ _ _ _ ih.rows).trans hperm

theorem btj_same (σ : Leaves) (p : PJoin) (cur : UOp) (target : Rel)
    (hwft : target.WF) (htrt : target.Truthful σ) (hcur : cur.wfOn target.columns = true)
    (hF : RowsHaveCols (sem σ p.fixed) p.fixed.columns)
    (hp : p.columnsRequired.subset (cur.appliedColumns target.columns) = true)
    (f : PJoin) (hf : (p.commute cur target.columns (cur.appliedColumns target.columns)).1 = some f)
    (ih : BTJ σ p target target)
    (hbeq : ((p.commute cur target.columns (cur.appliedColumns target.columns)).2.1 == cur) = true) :
    BTJ σ p (.unary cur target (cur.appliedColumns target.columns))
      (.unary cur target (cur.appliedColumns target.columns)) := by
  obtain ⟨-, hcols, hperm, hd, hcd⟩ := pj_report σ p cur target hwft htrt hcur hF hp f hf
  obtain ⟨hsemeq, hcoleq⟩ := pj_second_beq p cur target.columns _ (by simp [hf]) hbeq
  refine ⟨⟨hwft, rfl, hcur⟩, htrt, rfl, ?_, fun x => ?_⟩
  · show List.Perm (cur.sem (cur.appliedColumns target.columns) (sem σ target)) _
    rw [← hsemeq]
    exact (UOp.sem_perm _ hd hcd _ _ _ _ ih.rows).trans hperm
  · show x ∈ cur.appliedColumns target.columns ↔ _
    exact (UOp.appliedColumns_congr cur _ _ ih.cols x).trans (((hcoleq _ x).symm).trans (hcols x))

def BTJout (σ : Leaves) (p : PJoin) (tree : Rel) (out : Res × Bool) : Prop :=
  (out.2 = false → out.1 = .same) ∧ (out.2 = true → BTJ σ p tree (out.1.get tree))

theorem BTJout.unchanged (σ : Leaves) (p : PJoin) (tree : Rel) : BTJout σ p tree (.same, false) :=
  ⟨fun _ => rfl, nofun⟩

theorem backtrackFinish_pj_holds {σ : Leaves} {p : PJoin} {cur second : UOp} {target : Rel} {up : Res} {d : Bool}
    (hwft : target.WF) (htrt : target.Truthful σ) (hcur : cur.wfOn target.columns = true)
    (hF : RowsHaveCols (sem σ p.fixed) p.fixed.columns)
    (hp : p.columnsRequired.subset (cur.appliedColumns target.columns) = true)
    (hc : p.commute cur target.columns (cur.appliedColumns target.columns) = (some p, second, true))
    (ih : BTJout σ p target (up, d)) :
    (backtrackFinish cur (cur.appliedColumns target.columns) target second true up d).Holds
      (BTJout σ p (.unary cur target (cur.appliedColumns target.columns))) fun _ => True := by
  have hfirst : (p.commute cur target.columns (cur.appliedColumns target.columns)).1 = some p := by rw [hc]
  have hsec : (p.commute cur target.columns (cur.appliedColumns target.columns)).2.1 = second := by rw [hc]
  cases d with
  | false => cases ih.1 rfl; exact BTJout.unchanged σ p _
  | true =>
    have B := ih.2 rfl
    refine backtrackFinish_done_holds (Except.holds_of_ok fun r hfin =>
      ⟨nofun, fun _ => btj_step σ p cur target _ r hwft htrt hcur hF hp p hfirst B (hsec ▸ hfin)⟩) fun hup hbeq => ?_
    subst hup
    exact ⟨nofun, fun _ => btj_same σ p cur target hwft htrt hcur hF hp p hfirst B (hsec ▸ hbeq)⟩

/-- **Back-tracking a join into a SQL preferred engine**: what `backtrack_unary(PartialJoin, tree, preferred)` returns
for an iteration-engine tree.  Nothing is claimed of what it raises. -/
theorem backtrack_pj_holds (σ : Leaves) (st : Store) (pref : Engine) (hpk : pref.kind = .sql) (p : PJoin)
    (gF : Good NodeInv.triv σ p.fixed) (hfe : p.fixed.engine = pref)
    (hres : p.join.resolved = true) (hfix : p.join.minCols.subset p.fixed.columns = true)
    (fuel : Nat) (tree : Rel) (hwf : tree.WF) (htr : tree.Truthful σ)
    (hop : p.columnsRequired.subset tree.columns = true)
    (hpo : tree.prefTargetsGood NodeInv.triv σ pref) (hnp : tree.spineNoPayload st) :
    (backtrack st fuel (.pj p) tree pref).Holds (BTJout σ p tree) fun _ => True := by
  induction fuel generalizing tree with
  | zero => rw [backtrack]; trivial
  | succ fuel rec =>
    rcases backtrack_step st fuel (.pj p) tree pref with
      hs | hs | ⟨oid, dest, target, rfl, hk, hs⟩ | ⟨cur, target, ccols, rfl, hk, hs⟩ <;> rw [hs]
    · exact BTJout.unchanged σ p tree
    · trivial
    · obtain ⟨hgood, hpo'⟩ := hpo
      obtain ⟨hnone, hnp'⟩ := hnp
      split
      · -- the target lives in the database: the join is made there
        rename_i he
        have heq := beq_iff_eq.mp he
        refine Except.Holds.map (Except.holds_of_ok fun r happ => applyOp_pj_resolved σ st fuel p target
          (hgood heq hpk) gF (hfe.trans heq.symm) hres hfix r happ) fun r _ ⟨T, hT, gT, semT, colT, engT⟩ => ?_
        subst hT
        exact ⟨nofun, fun _ => ⟨gT.wf, gT.truthful, rfl, semT ▸ List.Perm.refl _, colT⟩⟩
      · refine (rec target hwf htr hop hpo' hnp').map fun out _ ih => ⟨fun hd => ?_, fun hd => ?_⟩
        · -- an untouched transfer without payload is handed back as it is
          rw [ih.1 hd]; simp only [reapplyTransfer, hnone, if_true]
        · obtain ⟨oid', e⟩ := reapplyTransfer_get st oid dest out.1 target
          exact e ▸ (ih.2 hd).transfer oid oid' dest
    · obtain ⟨hwft, rfl, hcur⟩ := hwf
      have hF : RowsHaveCols (sem σ p.fixed) p.fixed.columns := gF.rows
      simp only [AnyOp.commute]
      rcases p.commute_cases cur target.columns (cur.appliedColumns target.columns) with
        hc | ⟨-, ⟨hc, hreq, -⟩ | ⟨c', rfl, hc⟩⟩ <;> rw [hc]
      · exact BTJout.unchanged σ p _
      · exact (rec target hwft htr hreq hpo hnp).bind
          fun out _ ih => backtrackFinish_pj_holds hwft htr hcur hF hop hc ih
      · have hreq : p.columnsRequired.subset target.columns = true :=
          Cols.subset_mono hop fun t => Cols.mem_of_subset ((UOp.wfOn_proj c' _).symm.trans hcur)
        exact (rec target hwft htr hreq hpo hnp).bind
          fun out _ ih => backtrackFinish_pj_holds hwft htr hcur hF hop hc ih

theorem backtrack_pj_sound (σ : Leaves) (st : Store) (pref : Engine) (hpk : pref.kind = .sql) (p : PJoin)
    (gF : Good NodeInv.triv σ p.fixed) (hfe : p.fixed.engine = pref)
    (hres : p.join.resolved = true) (hfix : p.join.minCols.subset p.fixed.columns = true) :
    (fuel : Nat) → (tree : Rel) → (res : Res) → (done : Bool) →
    tree.WF → tree.Truthful σ → p.columnsRequired.subset tree.columns = true →
    tree.prefTargetsGood NodeInv.triv σ pref → tree.spineNoPayload st →
    backtrack st fuel (.pj p) tree pref = .ok (res, done) →
    (done = false → res = .same) ∧ (done = true → BTJ σ p tree (res.get tree)) :=
  fun fuel tree _ _ hwf htr hop hpo hnp h =>
    (backtrack_pj_holds σ st pref hpk p gF hfe hres hfix fuel tree hwf htr hop hpo hnp).of_ok h

/-- The end of `Join._begin_apply`: the join-identity short-cut, refused when the operands' engines differ. -/
def joinShortcut (j : JoinOp) (l r : Rel) (op : JoinOp) : Except Err BOp :=
  if j.pred.asTrivial == some true then
    if l.engine != r.engine && (l.isJoinIdentity || r.isJoinIdentity) then .error .engine
    else if l.isJoinIdentity then .ok (.ignoreOne true)
    else if r.isJoinIdentity then .ok (.ignoreOne false) else .ok (.join op)
  else .ok (.join op)

/-- `Join._begin_apply` without early exits. -/
theorem joinBeginApply_eq (j : JoinOp) (l r : Rel) : joinBeginApply j l r =
    if !(j.pred.columnsRequired.subset (l.columns.union r.columns)) then .error .column
    else if !j.resolved then
      j.appliedCommonColumns l.columns r.columns >>= fun c =>
        joinShortcut j l r { j with minCols := c, maxCols := some c }
    else j.commonColumns >>= fun c =>
      if !(c.subset l.columns) then .error .column
      else if !(c.subset r.columns) then .error .column else joinShortcut j l r j := rfl

theorem joinShortcut_cross_engine (j : JoinOp) (l r : Rel) (op : JoinOp) (op' : BOp) (hne : l.engine ≠ r.engine)
    (h : joinShortcut j l r op = .ok op') :
    op' = .join op ∧
      ((j.pred.asTrivial == some true) = true → l.isJoinIdentity = false ∧ r.isJoinIdentity = false) := by
  have hne' : (l.engine != r.engine) = true := bne_iff_ne.mpr hne
  unfold joinShortcut at h
  rw [hne', Bool.true_and] at h
  -- the three tests as variables: nothing below looks inside them
  generalize (j.pred.asTrivial == some true) = triv at h ⊢
  generalize l.isJoinIdentity = li at h ⊢
  generalize r.isJoinIdentity = ri at h ⊢
  cases triv <;> cases li <;> cases ri <;> cases h <;> simp

theorem joinBeginApply_cross_engine (j : JoinOp) (l r : Rel) (op' : BOp) (hne : l.engine ≠ r.engine)
    (h : joinBeginApply j l r = .ok op') :
    ∃ op, op' = .join op ∧ op.pred = j.pred ∧
      ((j.pred.asTrivial == some true) = true → l.isJoinIdentity = false ∧ r.isJoinIdentity = false) := by
  rw [joinBeginApply_eq] at h
  obtain ⟨-, h⟩ := Except.ite_error_eq_ok.mp h
  cases hr : j.resolved <;> rw [hr] at h <;> obtain ⟨c, -, h⟩ := Except.bind_eq_ok.mp h
  · obtain ⟨rfl, ht⟩ := joinShortcut_cross_engine j l r _ op' hne h
    exact ⟨_, rfl, rfl, ht⟩
  · obtain ⟨rfl, ht⟩ := joinShortcut_cross_engine j l r _ op' hne
      (Except.ite_error_eq_ok.mp (Except.ite_error_eq_ok.mp h).2).2
    exact ⟨_, rfl, rfl, ht⟩

/-- A join across engines that `_begin_apply` has let through (neither operand is the join identity) is refused by
`_finish_apply` in an iteration engine. -/
theorem binaryFinishApply_join_cross_engine (op : JoinOp) (l r : Rel) (hne : l.engine ≠ r.engine)
    (htriv : (op.pred.asTrivial == some true) = true → l.isJoinIdentity = false ∧ r.isJoinIdentity = false) :
    binaryFinishApply (.join op) l r = .error .engine := by
  have hne' : (l.engine != r.engine) = true := bne_iff_ne.mpr hne
  unfold binaryFinishApply
  cases ht : op.pred.asTrivial == some true with
  | false => simp only [Bool.false_and, Bool.false_eq_true, if_false, hne', if_true]
  | true =>
    obtain ⟨h1, h2⟩ := htriv ht
    simp only [h1, h2, Bool.and_false, Bool.false_eq_true, if_false, hne', if_true]

/-- `append_binary` in a database refuses operands of different engines, for every operation. -/
theorem appendBinarySql_cross_engine (st : Store) (fuel : Nat) (op : BOp) (l r : Rel) (hne : l.engine ≠ r.engine) :
    appendBinarySql st (fuel+1) op l r = .error .engine := by
  have hne' : (l.engine != r.engine) = true := bne_iff_ne.mpr hne
  rw [appendBinarySql]
  simp only [hne', Bool.true_or, if_true]
  rfl

theorem binaryApply_join_cross_engine (st : Store) (fuel : Nat) (j : JoinOp) (l r : Rel) (hne : l.engine ≠ r.engine)
    (res : BRes) : binaryApply st fuel (.join j) l r ≠ .ok res := by
  intro h
  cases fuel with
  | zero => rw [binaryApply] at h; cases h
  | succ fuel =>
    rw [binaryApply] at h
    obtain ⟨op', hb, h⟩ := Except.bind_eq_ok.mp h
    obtain ⟨op, rfl, hpred, htriv⟩ := joinBeginApply_cross_engine j l r op' hne hb
    dsimp only at h
    split at h
    · rw [binaryFinishApply_join_cross_engine op l r hne (hpred ▸ htriv)] at h; cases h
    · cases fuel with
      | zero => rw [appendBinarySql] at h; cases h
      | succ fuel => rw [appendBinarySql_cross_engine st fuel _ l r hne] at h; cases h

theorem pjFinish_cross_engine (st : Store) (fuel : Nat) (p : PJoin) (t : Rel) (hne : p.fixed.engine ≠ t.engine)
    (res : Res) : pjFinishApply st fuel p t ≠ .ok res := by
  intro h
  cases fuel with
  | zero => rw [pjFinishApply] at h; cases h
  | succ fuel =>
    rw [pjFinishApply] at h
    cases hl : p.fixedIsLhs <;> rw [hl] at h <;> obtain ⟨r, hb, -⟩ := Except.bind_eq_ok.mp h
    · exact binaryApply_join_cross_engine st fuel p.join t p.fixed (fun h => hne h.symm) r hb
    · exact binaryApply_join_cross_engine st fuel p.join p.fixed t hne r hb

theorem appendUnary_pj_cross_engine (st : Store) (fuel : Nat) (p : PJoin) (t : Rel) (hk : t.engine.kind = .iter)
    (hne : p.fixed.engine ≠ t.engine) (res : Res) : appendUnary st fuel (.pj p) t ≠ .ok res := by
  intro h
  cases fuel with
  | zero => rw [appendUnary] at h; cases h
  | succ fuel =>
    rw [appendUnary] at h
    simp only [hk] at h
    exact pjFinish_cross_engine st fuel p t hne res h

/-- `PartialJoin.apply` across engines without back-tracking and without transfer never returns a relation, whichever
engine is preferred: only the final `append_unary` is left, and it refuses. -/
theorem applyOp_pj_cross_engine (st : Store) (fuel : Nat) (p : PJoin) (t : Rel) (o : Opts)
    (hbt : o.backtrack = false) (htr : o.transfer = false) (hkt : t.engine.kind = .iter)
    (hne : p.fixed.engine ≠ t.engine) (res : Res) : applyOp st fuel (.pj p) t o ≠ .ok res := by
  intro h
  obtain ⟨fuel, p', e, rfl, hb, h⟩ := applyOp_pj_inv h
  obtain ⟨f1, -⟩ := pjBeginApply_frame p t o.pref p' e hb
  exact (applyAfterBegin_holds (S := (· = t)) (R := fun _ => False) (E := fun _ => True) rfl trivial
    (fun x hx => Except.holds_of_ok fun r happ =>
      appendUnary_pj_cross_engine st fuel p' t hkt (f1 ▸ hne) r (hx ▸ happ))
    (fun _ hbk => nomatch hbt.symm.trans hbk) (fun _ _ ht => nomatch htr.symm.trans ht)).of_ok h

/-- `BTJ`, except that the result lives in the fixed relation's engine (the preferred one, after the transfer) instead
of the target's. -/
structure JoinedIn (σ : Leaves) (p : PJoin) (t t' : Rel) : Prop where
  wf : t'.WF
  truthful : t'.Truthful σ
  engine : t'.engine = p.fixed.engine
  rows : List.Perm (sem σ t') (p.semRows (sem σ p.fixed) (sem σ t))
  cols : ∀ x, x ∈ t'.columns ↔ x ∈ p.appliedColumns t.columns

/-- **`PartialJoin.apply` with EVERY combination of `backtrack` / `transfer` / `require_preferred_engine`** (preferred
engine = the fixed relation's database, target in an iteration engine). -/
theorem applyOp_pj_all_options (σ : Leaves) (st : Store) (fuel : Nat) (p : PJoin) (t : Rel) (o : Opts)
    (hpref : o.pref = none ∨ o.pref = some p.fixed.engine)
    (hkt : t.engine.kind = .iter) (hks : p.fixed.engine.kind = .sql)
    (gF : Good NodeInv.triv σ p.fixed)
    (hfix0 : p.join.resolved = true → p.join.minCols.subset p.fixed.columns = true)
    (hwf : t.WF) (htrt : t.Truthful σ) (hpo : t.prefTargetsGood NodeInv.triv σ p.fixed.engine)
    (hnp : t.spineNoPayload st) (hts : o.transfer = true → transferSimplify p.fixed.engine t = none)
    (res : Res) (h : applyOp st fuel (.pj p) t o = .ok res) :
    ∃ p', p.beginApply t o.pref = .ok (p', p.fixed.engine) ∧
      ((o.backtrack = true ∧ BTJ σ p' t (res.get t)) ∨ (o.transfer = true ∧ JoinedIn σ p' t (res.get t))) := by
  obtain ⟨fuel, p', e, rfl, hb, h⟩ := applyOp_pj_inv h
  obtain ⟨f1, _, _, f4, f5, f6, f7, _⟩ := pjBeginApply_frame p t o.pref p' e hb
  obtain ⟨hreq, hres'⟩ := pjBeginApply_req p t o.pref p' e hb
  obtain rfl : e = p.fixed.engine := by rcases hpref with hq | hq <;> simp [f4, hq]
  have hne : p.fixed.engine ≠ t.engine := fun hh => by rw [hh, hkt] at hks; cases hks
  have gF' : Good NodeInv.triv σ p'.fixed := f1 ▸ gF
  have f5' : p'.join.minCols.subset p'.fixed.columns = true := f1 ▸ f5 hfix0
  -- a stand-in is the target itself or, after the transfer, a relation in the database with its rows and columns
  refine ⟨p', hb, (applyAfterBegin_holds (E := fun _ => True)
    (S := fun x => x = t ∨ (o.transfer = true ∧ Good NodeInv.triv σ x ∧ sem σ x = sem σ t ∧
      (∀ c, c ∈ x.columns ↔ c ∈ t.columns) ∧ x.engine = p.fixed.engine))
    (R := fun T => (o.backtrack = true ∧ BTJ σ p' t T) ∨ (o.transfer = true ∧ JoinedIn σ p' t T))
    (Or.inl rfl) trivial ?_ ?_ ?_).of_ok h⟩
  · rintro x (hx | ⟨htr, gx, sx, cx, ex⟩) <;> refine Except.holds_of_ok fun r happ => ?_
    · -- outside the database the join itself is refused, so only a transfer can lead on
      exact absurd (hx ▸ happ) (appendUnary_pj_cross_engine st fuel p' t hkt (f1 ▸ hne) r)
    · have hp : p'.join.pred.columnsRequired.subset (p'.fixed.columns.union x.columns) = true :=
        Cols.subset_mono f7 (Cols.mem_union_mono (fun _ hu => f1 ▸ hu) fun u => (cx u).mpr)
      obtain ⟨T, rfl, gT, semT, colT, engT⟩ := appendUnary_pj_joined σ st fuel p' x gx gF' f5'
        (Cols.subset_mono f6 fun u => (cx u).mpr) hp r happ
      refine Or.inr ⟨htr, (⟨gT.wf, gT.truthful, ?_, ?_, fun u => ?_⟩ : JoinedIn σ p' t T)⟩
      · rw [engT]; split
        · rfl
        · rw [f1]; exact ex
      · rw [semT, sx]
      · rw [colT u, PJoin.mem_appliedColumns, PJoin.mem_appliedColumns, cx u]
  · intro _ hbk
    refine (backtrack_pj_holds σ st p.fixed.engine hks p' gF' (congrArg Rel.engine f1) hres' f5' fuel t
      hwf htrt hreq hpo hnp).mono (fun out _ ih => ⟨fun hd => Or.inl ⟨hbk, ih.2 hd⟩, fun hd => ?_⟩) fun _ h => h
    rw [ih.1 hd]
    exact ⟨Or.inl rfl, rfl⟩
  · rintro x _ htr (hx | ⟨-, -, -, -, ex⟩) hxe
    · rw [hx]
      refine Except.holds_of_ok fun r1 htt => ?_
      obtain ⟨s1, c1, -, -, e1, g1⟩ := transferTo_sound_of_none σ st fuel p.fixed.engine t r1 hwf htrt
        (fun hq => by rw [hkt] at hq; cases hq) (hts htr) htt
      exact Or.inr ⟨htr, g1 hks, s1, c1, e1⟩
    · exact absurd (ex.symm.trans hxe) hne

/-- **`relation.join(fixed)` with its default options** (the preferred engine is the fixed relation's, back-tracking
on, no transfer): whenever the call succeeds, the join was back-tracked into the database.  `hbt` is not used:
without a transfer, only a back-tracked call succeeds. -/
theorem applyOp_pj_backtracked (σ : Leaves) (st : Store) (fuel : Nat) (p : PJoin) (t : Rel) (o : Opts)
    (hpref : o.pref = none ∨ o.pref = some p.fixed.engine) (hbt : o.backtrack = true) (htr : o.transfer = false)
    (hkt : t.engine.kind = .iter) (hks : p.fixed.engine.kind = .sql)
    (gF : Good NodeInv.triv σ p.fixed)
    (hfix0 : p.join.resolved = true → p.join.minCols.subset p.fixed.columns = true)
    (hwf : t.WF) (htrt : t.Truthful σ) (hpo : t.prefTargetsGood NodeInv.triv σ p.fixed.engine)
    (hnp : t.spineNoPayload st)
    (res : Res) (h : applyOp st fuel (.pj p) t o = .ok res) :
    ∃ p', p.beginApply t o.pref = .ok (p', p.fixed.engine) ∧ BTJ σ p' t (res.get t) := by
  obtain ⟨p', hb, ⟨_, B⟩ | ⟨ht, _⟩⟩ := applyOp_pj_all_options σ st fuel p t o hpref hkt hks gF hfix0 hwf htrt hpo hnp
    (fun ht => by rw [htr] at ht; cases ht) res h
  · exact ⟨p', hb, B⟩
  · rw [htr] at ht; cases ht

/-- **`relation.join(fixed, transfer=...)`**, either value of `transfer`.  `hbt` is not used: the statement holds for
either value of `backtrack` as well. -/
theorem applyOp_pj_any_transfer (σ : Leaves) (st : Store) (fuel : Nat) (p : PJoin) (t : Rel) (o : Opts)
    (hpref : o.pref = none ∨ o.pref = some p.fixed.engine) (hbt : o.backtrack = true)
    (hkt : t.engine.kind = .iter) (hks : p.fixed.engine.kind = .sql)
    (gF : Good NodeInv.triv σ p.fixed)
    (hfix0 : p.join.resolved = true → p.join.minCols.subset p.fixed.columns = true)
    (hwf : t.WF) (htrt : t.Truthful σ) (hpo : t.prefTargetsGood NodeInv.triv σ p.fixed.engine)
    (hnp : t.spineNoPayload st) (hts : o.transfer = true → transferSimplify p.fixed.engine t = none)
    (res : Res) (h : applyOp st fuel (.pj p) t o = .ok res) :
    ∃ p', p.beginApply t o.pref = .ok (p', p.fixed.engine) ∧
      (BTJ σ p' t (res.get t) ∨ (o.transfer = true ∧ JoinedIn σ p' t (res.get t))) := by
  obtain ⟨p', hb, ⟨_, B⟩ | J⟩ := applyOp_pj_all_options σ st fuel p t o hpref hkt hks gF hfix0 hwf htrt hpo hnp hts res h
  · exact ⟨p', hb, Or.inl B⟩
  · exact ⟨p', hb, Or.inr J⟩

end DafRel
