/-
`convert_column_expression` / `convert_predicate` of the SQL engine (`convExpr`, `convPred`).  A successful
conversion evaluates, on the database row environment, to what the iteration engine's callable computes on the
corresponding row (C12); it mentions only sources of the available columns' expressions; and it succeeds when every
referenced column is available.  Each of the three is one recursion over the expression, through the model's
`match` chains restated as equations in the `Except` monad; `convert_flattened_predicate` (`convFlattened`) inherits
them at the end.  First, the `range` branch: SQL's `BETWEEN` and SQLite's truncating `%` against Python's `range`
membership.
-/
import DafRel.Model.Sql
import DafRel.Lemmas.Expr
import DafRel.Lemmas.Trivial
import DafRel.Lemmas.Base

namespace DafRel

theorem dvd_le_ediv_mul_iff {m d : Int} (n : Int) (hm : 0 < m) (hd : m ∣ d) : d ≤ n / m * m ↔ d ≤ n := by
  obtain ⟨j, rfl⟩ := hd
  rw [Int.mul_comm m j, Int.mul_le_mul_iff_of_pos_right hm, Int.le_ediv_iff_mul_le hm]

theorem dvd_nonneg_of_neg_lt {m d : Int} (hd : m ∣ d) (h : -m < d) : 0 ≤ d := by
  apply Int.not_lt.mp
  intro hneg
  have := Int.le_of_dvd (by omega : 0 < -d) (Int.dvd_neg.mpr hd)
  omega

/-- `value = value[::-1]` for a descending `range(a, b, -m)`: the reversed range starts at the least member
`a - (a - b - 1) / m * m` and stops before `a + m`.  Among the `v` with `m ∣ a - v`, being at least that start means
`b < v` (`dvd_le_ediv_mul_iff`), and being below `a + m` means `v ≤ a` (`dvd_nonneg_of_neg_lt`). -/
theorem desc_range_reversed (v a b m : Int) (hm : 0 < m) :
    ((a - (a - b - 1) / m * m ≤ v ∧ v ≤ a + m - 1) ∧ (v - (a - (a - b - 1) / m * m)) % m = 0) ↔
      ((b < v ∧ v ≤ a) ∧ (a - v) % m = 0) := by
  have e : v - (a - (a - b - 1) / m * m) = -(a - v) + (a - b - 1) / m * m := by omega
  rw [e, Int.add_mul_emod_self_right, ← Int.dvd_iff_emod_eq_zero, Int.dvd_neg, ← Int.dvd_iff_emod_eq_zero, and_congr_left_iff]
  intro hd
  have hk := dvd_le_ediv_mul_iff (a - b - 1) hm hd
  constructor
  · intro h
    have := dvd_nonneg_of_neg_lt hd (by omega)
    omega
  · omega

section atoms
variable {env : PEnv} {x : SqlExpr} {v : Int} (hx : x.eval env = some v)
include hx

theorem SqlPred.eval_eqLit (c : Int) : (SqlPred.eqLit x c).eval env = decide (v = c) := by
  simp only [SqlPred.eval, hx, Option.some_beq_some]; rfl

theorem SqlPred.eval_between (lo hi : Int) :
    (SqlPred.between x lo hi).eval env = decide (lo ≤ v ∧ v ≤ hi) := by
  simp [SqlPred.eval, hx]

theorem SqlPred.eval_modEq {m : Int} (hm : m ≠ 0) (r : Int) :
    (SqlPred.modEq x m r).eval env = decide (v.tmod m = r) := by
  simp only [SqlPred.eval, hx, sqliteMod, hm, if_false, Option.some_beq_some]; rfl

theorem sqlExpr_sub_lit (c : Int) : (SqlExpr.fn .sub [x, .lit c]).eval env = some (v - c) := by
  simp [SqlExpr.eval, SqlExpr.evalList, hx, Fn.apply]
end atoms

theorem SqlPred.eval_and_pair (env : PEnv) (p q : SqlPred) :
    (SqlPred.and [p, q]).eval env = (p.eval env && q.eval env) := by
  simp [SqlPred.eval, SqlPred.evalAll]

/-- SQLite's truncating `%` against Python's flooring residue of the start, on the nonnegative side. -/
theorem tmod_eq_fmod_iff {v start step : Int} (hs : 0 < step) (h0 : 0 ≤ v) :
    v.tmod step = start.fmod step ↔ (v - start) % step = 0 := by
  rw [Int.tmod_eq_emod_of_nonneg h0, Int.fmod_eq_emod_of_nonneg start (Int.le_of_lt hs)]
  exact Int.emod_eq_emod_iff_emod_sub_eq_zero

theorem ascRange_sound (env : PEnv) (x : SqlExpr) (v start last step : Int) (hx : x.eval env = some v)
    (hs : 0 < step) :
    (ascRange x start last step).eval env =
      decide ((start ≤ v ∧ v ≤ last) ∧ (v - start) % step = 0) := by
  have hs0 : step ≠ 0 := Int.ne_of_gt hs
  fun_cases ascRange x start last step
  next h =>
    -- `start == stop_inclusive`: `sql_item == start`
    cases beq_iff_eq.mp h
    rw [SqlPred.eval_eqLit hx, decide_eq_decide]
    exact ⟨by rintro rfl; simp, fun h => Int.le_antisymm h.1.2 h.1.1⟩
  · -- `step != 1` and `start < 0`: `(sql_item - start) % step == 0`; inside the BETWEEN the dividend is nonnegative,
    -- where SQLite's truncating `%` is the mathematical one
    rw [SqlPred.eval_and_pair, SqlPred.eval_between hx, SqlPred.eval_modEq (sqlExpr_sub_lit hx start) hs0,
      ← Bool.decide_and, decide_eq_decide, and_congr_right_iff]
    intro h
    rw [Int.tmod_eq_emod_of_nonneg (Int.sub_nonneg.mpr h.1)]
  next hneg =>
    -- `step != 1` and `0 ≤ start`: `sql_item % step == start % step`, the right side computed by Python (`fmod`);
    -- inside the BETWEEN `0 ≤ start ≤ v`, and both remainders are the mathematical one
    rw [SqlPred.eval_and_pair, SqlPred.eval_between hx, SqlPred.eval_modEq hx hs0,
      ← Bool.decide_and, decide_eq_decide, and_congr_right_iff]
    intro h
    exact tmod_eq_fmod_iff hs (Int.le_trans (Int.not_lt.mp hneg) h.1)
  next h1 =>
    -- `step == 1`: the BETWEEN alone
    cases (by simpa using h1 : step = 1)
    rw [SqlPred.eval_between hx, Int.emod_one, decide_eq_decide]
    simp

theorem inRange_pos {v a b s : Int} (hs : 0 < s) :
    inRange v a b s = decide ((a ≤ v ∧ v < b) ∧ (v - a) % s = 0) := by
  rw [inRange, if_pos hs, ← Bool.decide_and, ← Bool.decide_and]

theorem inRange_neg {v a b s : Int} (hs : s < 0) :
    inRange v a b s = decide ((b < v ∧ v ≤ a) ∧ (a - v) % (-s) = 0) := by
  rw [inRange, if_neg (Int.not_lt.mpr (Int.le_of_lt hs)), if_pos hs, ← Bool.decide_and, ← Bool.decide_and]

theorem convRange_sound (env : PEnv) (x : SqlExpr) (v a b s : Int) (hx : x.eval env = some v) :
    (convRange x a b s).eval env = inRange v a b s := by
  fun_cases convRange x a b s
  next hempty =>
    show false = _
    simp only [Bool.or_eq_true, Bool.and_eq_true, decide_eq_true_eq, beq_iff_eq] at hempty
    rcases hempty with (⟨hs, h⟩ | ⟨hs, h⟩) | rfl
    · rw [inRange_pos hs]; exact (decide_eq_false (by omega)).symm
    · rw [inRange_neg hs]; exact (decide_eq_false (by omega)).symm
    · rfl
  next hs n =>
    have e : a + (n - 1) * s = a - (a - b - 1) / -s * -s := by
      show a + ((a - b - 1) / -s + 1 - 1) * s = _
      rw [Int.add_sub_cancel, Int.mul_neg, Int.sub_neg]
    rw [ascRange_sound env x v _ _ (-s) hx (Int.neg_pos.mpr hs), inRange_neg hs, decide_eq_decide, e]
    exact desc_range_reversed v a b (-s) (Int.neg_pos.mpr hs)
  next hempty hs =>
    -- `s = 0` is the last disjunct of the emptiness test
    have hs0 : s ≠ 0 := fun h => hempty (Bool.or_eq_true_iff.mpr (.inr (beq_iff_eq.mpr h)))
    have hp : 0 < s := by omega
    rw [ascRange_sound env x v a (b - 1) s hx hp, inRange_pos hp, decide_eq_decide, Int.le_sub_one_iff]

/-- The `LogicalAnd` branch of `convert_predicate`: `literal(True)` for no operand, the operand's own conversion for
one, `sqlalchemy.and_` otherwise. -/
def SqlPred.conj : List SqlPred → SqlPred
  | [] => .lit true
  | [q] => q
  | qs => .and qs

/-- The `LogicalOr` branch: `literal(False)`, the operand's own conversion, `sqlalchemy.or_`. -/
def SqlPred.disj : List SqlPred → SqlPred
  | [] => .lit false
  | [q] => q
  | qs => .or qs

/-- The `PredicateReference` branch: the available column's expression, read as a truth value. -/
def SqlExpr.truth : SqlExpr → SqlPred
  | .col s c => .col s c
  | e => .fn (.other "truth") [e]

theorem SqlPred.eval_conj (env : PEnv) (qs : List SqlPred) : (SqlPred.conj qs).eval env = SqlPred.evalAll env qs := by
  unfold SqlPred.conj; split <;> simp [SqlPred.eval, SqlPred.evalAll]

theorem SqlPred.eval_disj (env : PEnv) (qs : List SqlPred) : (SqlPred.disj qs).eval env = SqlPred.evalAny env qs := by
  unfold SqlPred.disj; split <;> simp [SqlPred.eval, SqlPred.evalAny]

theorem SqlExpr.eval_truth {env : PEnv} {y : SqlExpr} {v : Int} (h : y.eval env = some v) :
    y.truth.eval env = decide (v ≠ 0) := by
  unfold SqlExpr.truth
  split
  · simp only [SqlExpr.eval] at h
    simp only [SqlPred.eval, h, Option.getD_some]
    rw [Bool.eq_iff_iff]
    simp
  · simp [SqlPred.eval, SqlExpr.evalList, h, PFn.apply]

theorem SqlPred.srcs_conj (qs : List SqlPred) : (SqlPred.conj qs).srcs = SqlPred.srcsList qs := by
  unfold SqlPred.conj; split <;> simp [SqlPred.srcs, SqlPred.srcsList]

theorem SqlPred.srcs_disj (qs : List SqlPred) : (SqlPred.disj qs).srcs = SqlPred.srcsList qs := by
  unfold SqlPred.disj; split <;> simp [SqlPred.srcs, SqlPred.srcsList]

theorem SqlExpr.srcs_truth (y : SqlExpr) : y.truth.srcs = y.srcs := by
  unfold SqlExpr.truth; split <;> simp [SqlPred.srcs, SqlExpr.srcs, SqlExpr.srcsList]

/-! One equation per constructor: `Except.map_eq_ok` / `bind_map_eq_ok` invert them, `Except.exists_..` give totality. -/

theorem convExpr_ref_eq_ok {avail : List (Tag × SqlExpr)} {t x} :
    convExpr avail (.ref t) = .ok x ↔ SqlPayload.lookup avail t = some x := by
  rw [convExpr]; cases SqlPayload.lookup avail t <;> simp

section eqns
variable (avail : List (Tag × SqlExpr))

theorem convExpr_fn (f args s) : convExpr avail (.fn f args s) = .fn f <$> convExprs avail args := by
  rw [convExpr]; cases convExprs avail args <;> rfl

theorem convExprs_cons (e es) : convExprs avail (e :: es) =
    convExpr avail e >>= fun x => (x :: ·) <$> convExprs avail es := by
  rw [convExprs]; cases convExpr avail e <;> cases convExprs avail es <;> rfl

theorem convPred_ref (t) : convPred avail (.ref t) = SqlExpr.truth <$> convExpr avail (.ref t) := by
  rw [convPred, convExpr]; cases SqlPayload.lookup avail t with
  | none => rfl
  | some y => cases y <;> rfl

theorem convPred_fn (f args s) : convPred avail (.fn f args s) = .fn f <$> convExprs avail args := by
  rw [convPred]; cases convExprs avail args <;> rfl

theorem convPred_not (p) : convPred avail (.not p) = .not <$> convPred avail p := by
  rw [convPred]; cases convPred avail p <;> rfl

theorem convPred_and (ps) : convPred avail (.and ps) = .conj <$> convPreds avail ps := by
  rw [convPred]; rcases convPreds avail ps with _ | _ | ⟨_, _ | _⟩ <;> rfl

theorem convPred_or (ps) : convPred avail (.or ps) = .disj <$> convPreds avail ps := by
  rw [convPred]; rcases convPreds avail ps with _ | _ | ⟨_, _ | _⟩ <;> rfl

theorem convPred_inRange (item a b s) : convPred avail (.inC item (.range a b s)) =
    (convRange · a b s) <$> convExpr avail item := by
  rw [convPred]; cases convExpr avail item <;> rfl

theorem convPred_inSeq (item items) : convPred avail (.inC item (.seq items)) =
    convExpr avail item >>= fun x => .inList x <$> convExprs avail items := by
  rw [convPred]; cases convExpr avail item with
  | error e => rfl
  | ok x => dsimp only; cases convExprs avail items <;> rfl

theorem convPreds_cons (p ps) : convPreds avail (p :: ps) =
    convPred avail p >>= fun q => (q :: ·) <$> convPreds avail ps := by
  rw [convPreds]; cases convPred avail p <;> cases convPreds avail ps <;> rfl
end eqns

def AvailOK (avail : List (Tag × SqlExpr)) (env : PEnv) (r : Row) : Prop :=
  ∀ t x, SqlPayload.lookup avail t = some x → x.eval env = r t

/-- `columns_available` of a table or subquery `name`: each of `cols` is that source's column of the same name. -/
theorem availOK_of_lookup {avail : List (Tag × SqlExpr)} {cols : Cols} {name : String}
    (hav : ∀ t, SqlPayload.lookup avail t = if t ∈ cols then some (SqlExpr.col name t) else none) (r : Row) :
    AvailOK avail (rowEnv name r) r := by
  intro t x hl
  rw [hav] at hl
  split at hl
  · cases hl; simp [SqlExpr.eval, rowEnv]
  · cases hl

mutual
theorem convExpr_eval (avail : List (Tag × SqlExpr)) (env : PEnv) (r : Row) (ha : AvailOK avail env r) :
    (e : Expr) → (x : SqlExpr) → convExpr avail e = .ok x → x.eval env = e.eval r := by
  intro e x h
  cases e with
  | lit v => cases h; rfl
  | ref t => exact ha t x (convExpr_ref_eq_ok.mp h)
  | fn f args s =>
    obtain ⟨as, hc, rfl⟩ := Except.map_eq_ok.mp (convExpr_fn .. ▸ h)
    rw [SqlExpr.eval, Expr.eval, convExprs_eval avail env r ha args as hc]; rfl
theorem convExprs_eval (avail : List (Tag × SqlExpr)) (env : PEnv) (r : Row) (ha : AvailOK avail env r) :
    (es : List Expr) → (xs : List SqlExpr) → convExprs avail es = .ok xs →
      SqlExpr.evalList env xs = Expr.evalList r es := by
  intro es xs h
  cases es with
  | nil => cases h; rfl
  | cons e es =>
    obtain ⟨x, h1, ys, h2, rfl⟩ := Except.bind_map_eq_ok.mp (convExprs_cons .. ▸ h)
    rw [SqlExpr.evalList, Expr.evalList, convExpr_eval avail env r ha e x h1, convExprs_eval avail env r ha es ys h2]; rfl
end

theorem convExpr_eval_val {avail : List (Tag × SqlExpr)} {env : PEnv} {r : Row} (hav : AvailOK avail env r)
    {e : Expr} {x : SqlExpr} (hc : convExpr avail e = .ok x) (ha : e.arityOk = true)
    (hr : r.hasAll e.columnsRequired) : x.eval env = some (e.val r) :=
  (convExpr_eval avail env r hav e x hc).trans (Expr.eval_eq_val r e ha hr)

/-- Python's `all` / `any` stop at the first deciding operand, so the callable may yield a value where a later operand
would raise; SQL's `AND` / `OR` evaluate every operand and give that value. -/
theorem convPred_eval (avail : List (Tag × SqlExpr)) (env : PEnv) (r : Row) (ha : AvailOK avail env r) :
    (p : Pred) → (q : SqlPred) → (b : Bool) → convPred avail p = .ok q → p.eval r = some b → q.eval env = b := by
  intro p q b h hb
  induction p using Pred.rec (motive_2 := fun ps => ∀ qs, convPreds avail ps = .ok qs →
    (∀ b, Pred.evalAll r ps = some b → SqlPred.evalAll env qs = b) ∧
    (∀ b, Pred.evalAny r ps = some b → SqlPred.evalAny env qs = b)) generalizing q b with
  | lit v => cases h; exact Option.some.inj hb
  | ref t =>
    obtain ⟨y, hc, rfl⟩ := Except.map_eq_ok.mp (convPred_ref .. ▸ h)
    obtain ⟨v, hv, rfl⟩ := Option.map_eq_some_iff.mp hb
    exact SqlExpr.eval_truth ((convExpr_eval avail env r ha _ y hc).trans hv)
  | fn f args s =>
    obtain ⟨as, hc, rfl⟩ := Except.map_eq_ok.mp (convPred_fn .. ▸ h)
    obtain ⟨vs, he, hf⟩ := Option.bind_eq_some_iff.mp (Pred.eval_fn .. ▸ hb)
    simp only [SqlPred.eval, convExprs_eval avail env r ha args as hc, he]
    exact congrArg (·.getD false) hf
  | not p ih =>
    obtain ⟨q', hc, rfl⟩ := Except.map_eq_ok.mp (convPred_not .. ▸ h)
    obtain ⟨b', hp, rfl⟩ := Option.map_eq_some_iff.mp hb
    simp only [SqlPred.eval, ih q' b' hc hp]
  | and ps ih =>
    obtain ⟨qs, hc, rfl⟩ := Except.map_eq_ok.mp (convPred_and .. ▸ h)
    rw [SqlPred.eval_conj]
    exact (ih qs hc).1 b hb
  | or ps ih =>
    obtain ⟨qs, hc, rfl⟩ := Except.map_eq_ok.mp (convPred_or .. ▸ h)
    rw [SqlPred.eval_disj]
    exact (ih qs hc).2 b hb
  | inC item c =>
    obtain ⟨v, hv, hb⟩ := Option.bind_eq_some_iff.mp (Pred.eval_inC .. ▸ hb)
    cases c with
    | range a0 b0 s0 =>
      obtain ⟨x, hc, rfl⟩ := Except.map_eq_ok.mp (convPred_inRange .. ▸ h)
      rw [convRange_sound env x v a0 b0 s0 ((convExpr_eval avail env r ha item x hc).trans hv)]
      exact Option.some.inj hb
    | seq items =>
      obtain ⟨x, hc, xs, hi, rfl⟩ := Except.bind_map_eq_ok.mp (convPred_inSeq .. ▸ h)
      obtain ⟨vs, hvs, rfl⟩ := Option.map_eq_some_iff.mp (Container.evalContains_seq .. ▸ hb)
      simp only [SqlPred.eval, convExpr_eval avail env r ha item x hc, convExprs_eval avail env r ha items xs hi, hv, hvs]
  | nil => next qs h => cases h; exact ⟨fun _ => Option.some.inj, fun _ => Option.some.inj⟩
  | cons p ps ihp ihps =>
    next qs h =>
    obtain ⟨q, h1, qs', h2, rfl⟩ := Except.bind_map_eq_ok.mp (convPreds_cons .. ▸ h)
    simp only [Pred.evalAll, Pred.evalAny, SqlPred.evalAll, SqlPred.evalAny]
    cases hp : Pred.eval r p with
    | none => exact ⟨fun _ h => (by cases h), fun _ h => (by cases h)⟩
    | some bp =>
      rw [ihp q bp h1 hp]
      cases bp with
      | false => exact ⟨fun _ => Option.some.inj, (ihps qs' h2).2⟩
      | true => exact ⟨(ihps qs' h2).1, fun _ => Option.some.inj⟩

theorem convPreds_evalAll (avail : List (Tag × SqlExpr)) (env : PEnv) (r : Row) (ha : AvailOK avail env r) :
    (ps : List Pred) → (qs : List SqlPred) → (b : Bool) → convPreds avail ps = .ok qs →
      Pred.evalAll r ps = some b → SqlPred.evalAll env qs = b :=
  fun ps qs b h hb => (SqlPred.eval_conj env qs).symm.trans
    (convPred_eval avail env r ha (.and ps) (.conj qs) b (by rw [convPred_and, h]; rfl) hb)

theorem convPreds_evalAny (avail : List (Tag × SqlExpr)) (env : PEnv) (r : Row) (ha : AvailOK avail env r) :
    (ps : List Pred) → (qs : List SqlPred) → (b : Bool) → convPreds avail ps = .ok qs →
      Pred.evalAny r ps = some b → SqlPred.evalAny env qs = b :=
  fun ps qs b h hb => (SqlPred.eval_disj env qs).symm.trans
    (convPred_eval avail env r ha (.or ps) (.disj qs) b (by rw [convPred_or, h]; rfl) hb)

mutual
theorem convExpr_total (avail : List (Tag × SqlExpr)) (e : Expr)
    (h : ∀ t, t ∈ e.columnsRequired → (SqlPayload.lookup avail t).isSome = true) : ∃ x, convExpr avail e = .ok x := by
  cases e with
  | lit v => exact ⟨_, rfl⟩
  | ref t =>
    obtain ⟨y, hl⟩ := Option.isSome_iff_exists.mp (h t (List.mem_singleton.mpr rfl))
    exact ⟨y, convExpr_ref_eq_ok.mpr hl⟩
  | fn f args s => rw [convExpr_fn, Except.exists_map_eq_ok]; exact convExprs_total avail args h
theorem convExprs_total (avail : List (Tag × SqlExpr)) (es : List Expr)
    (h : ∀ t, t ∈ Expr.columnsRequiredList es → (SqlPayload.lookup avail t).isSome = true) :
    ∃ xs, convExprs avail es = .ok xs := by
  cases es with
  | nil => exact ⟨_, rfl⟩
  | cons e es =>
    have h := List.forall_mem_append.mp h
    rw [convExprs_cons, Except.exists_bind_map_eq_ok]
    exact ⟨convExpr_total avail e h.1, convExprs_total avail es h.2⟩
end

theorem convPred_total (avail : List (Tag × SqlExpr)) :
    (p : Pred) → (∀ t, t ∈ p.columnsRequired → (SqlPayload.lookup avail t).isSome = true) →
      ∃ q, convPred avail p = .ok q := by
  intro p h
  induction p using Pred.rec (motive_2 := fun ps =>
    (∀ t, t ∈ Pred.columnsRequiredList ps → (SqlPayload.lookup avail t).isSome = true) →
      ∃ qs, convPreds avail ps = .ok qs) with
  | lit b => exact ⟨_, rfl⟩
  | ref t => rw [convPred_ref, Except.exists_map_eq_ok]; exact convExpr_total avail (.ref t) h
  | fn f args s => rw [convPred_fn, Except.exists_map_eq_ok]; exact convExprs_total avail args h
  | not p ih => rw [convPred_not, Except.exists_map_eq_ok]; exact ih h
  | and ps ih => rw [convPred_and, Except.exists_map_eq_ok]; exact ih h
  | or ps ih => rw [convPred_or, Except.exists_map_eq_ok]; exact ih h
  | inC item c =>
    have h := List.forall_mem_append.mp h
    cases c with
    | range a b st => rw [convPred_inRange, Except.exists_map_eq_ok]; exact convExpr_total avail item h.1
    | seq items =>
      rw [convPred_inSeq, Except.exists_bind_map_eq_ok]
      exact ⟨convExpr_total avail item h.1, convExprs_total avail items h.2⟩
  | nil => exact ⟨_, rfl⟩
  | cons p ps ihp ihps =>
    next h =>
    have h := List.forall_mem_append.mp h
    rw [convPreds_cons, Except.exists_bind_map_eq_ok]
    exact ⟨ihp h.1, ihps h.2⟩

theorem convPreds_total (avail : List (Tag × SqlExpr)) (ps : List Pred)
    (h : ∀ t, t ∈ Pred.columnsRequiredList ps → (SqlPayload.lookup avail t).isSome = true) :
    ∃ qs, convPreds avail ps = .ok qs :=
  Except.exists_map_eq_ok.mp (convPred_and avail ps ▸ convPred_total avail (.and ps) h)

def availSrc (avail : List (Tag × SqlExpr)) (s : String) : Prop :=
  ∃ t y, SqlPayload.lookup avail t = some y ∧ s ∈ y.srcs

mutual
theorem convExpr_srcs (avail : List (Tag × SqlExpr)) (e : Expr) (x : SqlExpr) (h : convExpr avail e = .ok x) :
    ∀ s, s ∈ x.srcs → availSrc avail s := by
  cases e with
  | lit v => cases h; exact fun s hs => nomatch hs
  | ref t => exact fun s hs => ⟨t, x, convExpr_ref_eq_ok.mp h, hs⟩
  | fn f args _ =>
    obtain ⟨xs, hc, rfl⟩ := Except.map_eq_ok.mp (convExpr_fn .. ▸ h)
    exact convExprs_srcs avail args xs hc
theorem convExprs_srcs (avail : List (Tag × SqlExpr)) (es : List Expr) (xs : List SqlExpr)
    (h : convExprs avail es = .ok xs) : ∀ s, s ∈ SqlExpr.srcsList xs → availSrc avail s := by
  cases es with
  | nil => cases h; exact fun s hs => nomatch hs
  | cons e es =>
    obtain ⟨x, h1, ys, h2, rfl⟩ := Except.bind_map_eq_ok.mp (convExprs_cons .. ▸ h)
    exact List.forall_mem_append.mpr ⟨convExpr_srcs avail e x h1, convExprs_srcs avail es ys h2⟩
end

theorem ascRange_srcs (x : SqlExpr) (a b c : Int) : ∀ s, s ∈ (ascRange x a b c).srcs → s ∈ x.srcs := by
  fun_cases ascRange x a b c <;> simp [SqlPred.srcs, SqlPred.srcsList, SqlExpr.srcs, SqlExpr.srcsList]

theorem convRange_srcs (x : SqlExpr) (a b c : Int) : ∀ s, s ∈ (convRange x a b c).srcs → s ∈ x.srcs := by
  fun_cases convRange x a b c
  · intro s hs; cases hs
  all_goals exact ascRange_srcs _ _ _ _

theorem convPred_srcs (avail : List (Tag × SqlExpr)) : (p : Pred) → (q : SqlPred) → convPred avail p = .ok q →
    ∀ s, s ∈ q.srcs → availSrc avail s := by
  intro p q h
  induction p using Pred.rec (motive_2 := fun ps => ∀ qs, convPreds avail ps = .ok qs →
    ∀ s, s ∈ SqlPred.srcsList qs → availSrc avail s) generalizing q with
  | lit b => cases h; intro s hs; cases hs
  | ref t =>
    obtain ⟨y, hc, rfl⟩ := Except.map_eq_ok.mp (convPred_ref .. ▸ h)
    rw [SqlExpr.srcs_truth]
    exact convExpr_srcs avail _ y hc
  | fn f args _ =>
    obtain ⟨xs, hc, rfl⟩ := Except.map_eq_ok.mp (convPred_fn .. ▸ h)
    exact convExprs_srcs avail args xs hc
  | not p ih =>
    obtain ⟨q', hc, rfl⟩ := Except.map_eq_ok.mp (convPred_not .. ▸ h)
    exact ih q' hc
  | and ps ih =>
    obtain ⟨qs, hc, rfl⟩ := Except.map_eq_ok.mp (convPred_and .. ▸ h)
    rw [SqlPred.srcs_conj]
    exact ih qs hc
  | or ps ih =>
    obtain ⟨qs, hc, rfl⟩ := Except.map_eq_ok.mp (convPred_or .. ▸ h)
    rw [SqlPred.srcs_disj]
    exact ih qs hc
  | inC item c =>
    cases c with
    | range a b st =>
      obtain ⟨x, hc, rfl⟩ := Except.map_eq_ok.mp (convPred_inRange .. ▸ h)
      exact fun s hs => convExpr_srcs avail item x hc s (convRange_srcs x a b st s hs)
    | seq items =>
      obtain ⟨x, hc, xs, hi, rfl⟩ := Except.bind_map_eq_ok.mp (convPred_inSeq .. ▸ h)
      exact List.forall_mem_append.mpr ⟨convExpr_srcs avail item x hc, convExprs_srcs avail items xs hi⟩
  | nil => next qs h s hs => cases h; cases hs
  | cons p ps ihp ihps =>
    next qs h s hs =>
    obtain ⟨q, h1, qs', h2, rfl⟩ := Except.bind_map_eq_ok.mp (convPreds_cons .. ▸ h)
    exact (List.mem_append.mp hs).elim (ihp q h1 s) (ihps qs' h2 s)

theorem convFlattened_sound (avail : List (Tag × SqlExpr)) (env : PEnv) (r : Row) (hav : AvailOK avail env r)
    (pr : Pred) (ws : List SqlPred) (ha : pr.arityOk = true) (hall : r.hasAll pr.columnsRequired)
    (h : convFlattened avail pr = .ok ws) : SqlPred.evalAll env ws = pr.val r := by
  have hv := Pred.flattenAnd_val r pr
  revert h
  fun_cases convFlattened avail pr
  next hf =>
    rintro ⟨⟩
    rw [hf] at hv
    simp [SqlPred.evalAll, SqlPred.eval, hv]
  next ps hf =>
    intro h
    rw [hf] at hv
    have hev := Pred.evalAll_eq_valAll r ps (Pred.flattenAnd_arityOk pr ps hf ha)
      fun t ht => hall t (Pred.flattenAnd_cols pr ps hf t ht)
    rw [convPreds_evalAll avail env r hav ps ws _ h hev, hv]

theorem convFlattened_srcs (avail : List (Tag × SqlExpr)) (p : Pred) (ws : List SqlPred)
    (h : convFlattened avail p = .ok ws) : ∀ s, s ∈ SqlPred.srcsList ws → availSrc avail s := by
  revert h
  fun_cases convFlattened avail p
  · intro h s hs; cases h; cases hs
  next ps _ =>
    intro h
    rw [← SqlPred.srcs_conj]
    exact convPred_srcs avail (.and ps) _ (by rw [convPred_and, h]; rfl)

theorem convFlattened_total (avail : List (Tag × SqlExpr)) (p : Pred)
    (h : ∀ t, t ∈ p.columnsRequired → (SqlPayload.lookup avail t).isSome = true) :
    ∃ ws, convFlattened avail p = .ok ws := by
  fun_cases convFlattened avail p
  · exact ⟨_, rfl⟩
  next ps hf => exact convPreds_total avail ps fun t ht => h t (Pred.flattenAnd_cols p ps hf t ht)

end DafRel
