/-
Soundness of back-tracking insertion in iteration engines (`iteration.Engine.backtrack_unary`) and of
`UnaryOperation.apply` with preferred-engine options, for the unary operation classes (C03).  What back-tracking
returns has the content the operation applied at the root would have (when it reports `done`), or is a relation on
which applying the operation at the root gives that content (`BTok`).

Each statement speaks of both outcomes of a call (`Except.Holds`): what is returned is sound, and what is raised for
a well-formed operation is no complaint about the request.  The step lemmas say which operation `_finish_apply` is
applied to where, and that it is well-formed there (`FinishGives`); both outcomes follow from that.

A SQL engine does not back-track: on a target that lives in one, `apply` is `_begin_apply`, an optional transfer and
`append_unary` in the target's or the preferred engine; what happens inside a database is taken from the SQL
tree-building induction, which speaks of relations that are `Good NodeInv.triv` (Spec/Select.lean).
-/
import DafRel.Lemmas.Commute
import DafRel.Lemmas.Apply
import DafRel.Lemmas.Dedup
import DafRel.Spec.Backtrack
import DafRel.Lemmas.ConformSound
import DafRel.Lemmas.SqlFactories

namespace DafRel

theorem BTok.of_same {σ : Leaves} {o : UOp} {tree r : Rel} (hwf : r.WF) (htr : r.Truthful σ)
    (he : r.engine = tree.engine) (hs : sem σ r = sem σ tree) (hc : ∀ x, x ∈ r.columns ↔ x ∈ tree.columns)
    (hop : o.wfOn tree.columns = true) : BTok σ o tree r false :=
  { wf := hwf, truthful := htr, engine := he, done_sound := nofun,
    pend_wf := fun _ => (UOp.wfOn_congr o _ _ hc).trans hop, pend_cols := fun _ x => (hc x).mp,
    pend_sound := fun _ => ⟨hs ▸ o.sem_applied_congr hc _, UOp.appliedColumns_congr o _ _ hc⟩,
    pend_same := fun _ _ => ⟨hs, hc⟩ }

theorem BTok.unchanged (σ : Leaves) (o : UOp) (tree : Rel) (hwf : tree.WF) (htr : tree.Truthful σ)
    (hop : o.wfOn tree.columns = true) : BTok σ o tree tree false :=
  .of_same hwf htr rfl rfl (fun _ => Iff.rfl) hop

theorem BTok.transfer {σ : Leaves} {o : UOp} {target t' : Rel} {d : Bool} (h : BTok σ o target t' d)
    (oid oid' : Nat) (dest : Engine) : BTok σ o (.transfer oid dest target) (.transfer oid' dest t') d :=
  { wf := h.wf, truthful := h.truthful, engine := rfl, done_sound := h.done_sound, pend_wf := h.pend_wf,
    pend_cols := h.pend_cols, pend_sound := h.pend_sound, pend_same := h.pend_same }

theorem BTok.reapplyTransfer {σ : Leaves} {o : UOp} {target : Rel} {r : Res} {d : Bool}
    (h : BTok σ o target (r.get target) d) (st : Store) (oid : Nat) (dest : Engine) :
    BTok σ o (.transfer oid dest target) ((reapplyTransfer st oid dest r target).get (.transfer oid dest target)) d := by
  obtain ⟨oid', e⟩ := reapplyTransfer_get st oid dest r target
  exact e ▸ h.transfer oid oid' dest

theorem BTok.of_finish {σ : Leaves} {o : UOp} {t t' : Rel} (h : FinishOK σ o t t') : BTok σ o t t' true :=
  { wf := h.wf, truthful := h.truthful, engine := h.engine, done_sound := fun _ => ⟨h.sem_eq, h.cols⟩,
    pend_wf := nofun, pend_cols := nofun, pend_sound := nofun, pend_same := nofun }

/-- Exceptions that are not about the request being ill-formed: the documented `EngineError`, and
two model artefacts (recursion budget; an iteration-engine tree that contains a `sql.Select`). -/
def Err.benign (e : Err) : Prop := e = .engine ∨ e = .fuel ∨ e = .notImpl

/-- `_finish_apply` of an operation that is well-formed on `x`: a relation with that operation's content on top of
`x`, or `EngineError`.  `FinishGives σ op x P`: every such relation satisfies `P`. -/
structure FinishGives (σ : Leaves) (op : UOp) (x : Rel) (P : Rel → Prop) : Prop where
  wf : x.WF
  truthful : x.Truthful σ
  op_wf : op.wfOn x.columns = true
  gives : ∀ r', FinishOK σ op x r' → P r'

theorem FinishGives.holds {σ : Leaves} {op : UOp} {x : Rel} {P : Rel → Prop} (h : FinishGives σ op x P) :
    (op.finishApply x).Holds (fun res => P (res.get x)) (· = .engine) :=
  Except.holds_iff.mpr ⟨fun res hr => h.gives _ (finishApply_sound σ x op h.wf h.truthful h.op_wf res hr),
    fun _ => finishApply_error_inv⟩

section Step
variable {σ : Leaves} {o cur f second : UOp} {cdone : Bool} {target : Rel}

theorem bt_step_done {u' : Rel} (hC : commuteSoundAt o cur target.columns (sem σ target))
    (hc : o.commute cur target.columns (cur.appliedColumns target.columns) = ⟨some f, second, cdone⟩)
    (ih : BTok σ f target u' true) :
    FinishGives σ second u' fun r' => BTok σ o (.unary cur target (cur.appliedColumns target.columns)) r' cdone := by
  obtain ⟨-, hsw, hd, hp⟩ := (commuteSoundAt_iff hc).mp hC
  obtain ⟨hsem, hcols⟩ := ih.done_sound rfl
  refine ⟨ih.wf, ih.truthful, (UOp.wfOn_congr _ _ _ hcols).trans hsw, fun r' F => ?_⟩
  obtain ⟨hrs, hrc⟩ := F.on hsem hcols
  refine { wf := F.wf, truthful := F.truthful, engine := F.engine.trans ih.engine, done_sound := fun hdone => ?_,
           pend_wf := fun hdone => ?_, pend_cols := fun hdone x hx => ?_, pend_sound := fun hdone => ?_,
           pend_same := fun hdone hnp => ?_ }
  · obtain ⟨e1, e2⟩ := hd hdone
    exact ⟨hrs.trans e1, fun x => (hrc x).trans (e2 x)⟩
  · exact (UOp.wfOn_congr _ _ _ hrc).trans (hp hdone).1
  · exact (hp hdone).2.2.2 x ((hrc x).mp hx)
  · obtain ⟨-, e2, e3, -⟩ := hp hdone
    refine ⟨?_, fun x => (UOp.appliedColumns_congr o _ _ hrc x).trans (e3 x)⟩
    rw [hrs, o.sem_applied_congr hrc]
    exact e2
  · rw [(commute_done_of_nonproj hc hnp).2.2] at hdone; cases hdone

/-- `==` on operations is not `=`, but the second operation of a report that passes the test `second == cur` of
`backtrack_unary` is the existing one. -/
theorem commute_second_eq_of_beq (hop : o.wfOn (cur.appliedColumns target.columns) = true)
    (hc : o.commute cur target.columns (cur.appliedColumns target.columns) = ⟨some f, second, cdone⟩)
    (hbeq : (second == cur) = true) : second = cur := by
  cases hp : o.isProj with
  | false =>
    obtain ⟨-, rfl, -⟩ := commute_done_of_nonproj hc hp
    rcases UOp.movedPast_cases o cur with h | ⟨tag, e, c, rfl, rfl, h⟩
    · exact h
    · -- a calculation past a projection: the widened projection holds the new column, the existing one does not
      rw [h] at hbeq
      have htin : tag ∈ c := ((Cols.seteq_iff _ _).mp hbeq tag).mp ((Cols.mem_insert c tag tag).mpr (Or.inr rfl))
      exact absurd htin ((UOp.wfOn_calc tag e _).mp hop).2
  | true =>
    obtain ⟨cols, rfl⟩ := UOp.eq_proj_of_isProj hp
    obtain ⟨F', ⟨d, h⟩ | h⟩ := UOp.commute_proj_cases cols cur target.columns (cur.appliedColumns target.columns) <;>
      cases h.symm.trans hc
    · rfl
    · cases cur <;> first | rfl | cases hbeq

/-- The inner call did not insert the operation, which is not a projection: what it returned is equivalent to the
target, and the existing operation is re-applied to it. -/
theorem bt_step_pending_nonproj {u : Rel} (hcur : cur.wfOn target.columns = true)
    (hop : o.wfOn (cur.appliedColumns target.columns) = true) (hnp : o.isProj = false)
    (hC : commuteSoundAt o cur target.columns (sem σ target))
    (hc : o.commute cur target.columns (cur.appliedColumns target.columns) = ⟨some f, second, cdone⟩)
    (ih : BTok σ f target u false) :
    (if !(second.columnsRequired.subset u.columns) then cur else second) = cur ∧
      FinishGives σ cur u fun r' =>
        BTok σ o (.unary cur target (cur.appliedColumns target.columns)) r' false ∧
          r'.columns.subset (cur.appliedColumns target.columns) = true := by
  obtain ⟨rfl, rfl, -⟩ := commute_done_of_nonproj hc hnp
  obtain ⟨hsame, hcols⟩ := ih.pend_same rfl hnp
  have hfw := ((commuteSoundAt_iff hc).mp hC).1
  refine ⟨?_, ih.wf, ih.truthful, (UOp.wfOn_congr cur _ _ hcols).trans hcur, fun r' F => ?_⟩
  · -- the widened projection a calculation leaves behind needs the new column, which is not there yet
    rcases UOp.movedPast_cases f cur with h | ⟨tag, e, c, rfl, rfl, h⟩ <;> rw [h]
    · split <;> rfl
    · have : (UOp.proj (c.insert tag)).columnsRequired.subset u.columns = false :=
        Bool.eq_false_iff.mpr fun hs => ((UOp.wfOn_calc tag e _).mp hfw).2
          ((hcols tag).mp (Cols.mem_of_subset hs ((Cols.mem_insert c tag tag).mpr (Or.inr rfl))))
      rw [this]; rfl
  · obtain ⟨hrs, hrc⟩ := F.on hsame hcols
    exact ⟨.of_same F.wf F.truthful (F.engine.trans ih.engine) hrs hrc hop,
      (Cols.subset_iff _ _).mpr fun x => (hrc x).mp⟩

/-- What a projection still to be applied needs of a relation that stands in for `tree`: its columns, none that
`tree` has not, and `tree`'s rows on them. -/
theorem BTok.proj_pending {σ : Leaves} {cols : Cols} {tree r : Rel} (hwf : r.WF) (htr : r.Truthful σ)
    (heng : r.engine = tree.engine) (hc : ∀ c, c ∈ cols → c ∈ r.columns) (hsub : ∀ x, x ∈ r.columns → x ∈ tree.columns)
    (hE : (sem σ r).map (fun x => x.restrict cols) = (sem σ tree).map (fun x => x.restrict cols)) :
    BTok σ (.proj cols) tree r false :=
  { wf := hwf, truthful := htr, engine := heng, done_sound := nofun,
    pend_wf := fun _ => (UOp.wfOn_proj cols _).trans ((Cols.subset_iff _ _).mpr hc), pend_cols := fun _ => hsub,
    pend_sound := fun _ => ⟨hE, fun _ => Iff.rfl⟩, pend_same := fun _ h => nomatch h }

/-- The inner call could only partly insert a projection: the reported second operation is applied to what it
returned, and the result is projected back onto the tree's columns if needed. -/
theorem bt_step_pending_proj {cols F : Cols} {u : Rel} (hcur : cur.wfOn target.columns = true)
    (hop : (UOp.proj cols).wfOn (cur.appliedColumns target.columns) = true) (hnd : cur.isDedup = false)
    (hC : commuteSoundAt (.proj cols) cur target.columns (sem σ target))
    (hc : (UOp.proj cols).commute cur target.columns (cur.appliedColumns target.columns) = ⟨some (.proj F), second, cdone⟩)
    (ih : BTok σ (.proj F) target u false) :
    (if !(second.columnsRequired.subset u.columns) then cur else second) = second ∧
      FinishGives σ second u fun r' =>
        (r'.columns.subset (cur.appliedColumns target.columns) = true →
          BTok σ (.proj cols) (.unary cur target (cur.appliedColumns target.columns)) r' false) ∧
        FinishGives σ (.proj (r'.columns.inter (cur.appliedColumns target.columns))) r' fun r'' =>
          BTok σ (.proj cols) (.unary cur target (cur.appliedColumns target.columns)) r'' false := by
  have hFU : ∀ t, t ∈ F → t ∈ u.columns := fun t => Cols.mem_of_subset ((UOp.wfOn_proj F _).symm.trans (ih.pend_wf rfl))
  -- C04 for the report, and locality: `u` agrees with the target on `F`, and has no column the target has not
  obtain ⟨-, hsF, hd, hp⟩ := (commuteSoundAt_iff hc).mp hC
  obtain ⟨hsec, hkind⟩ := commute_proj_second hc hnd
  have hsw : second.wfOn u.columns = true := UOp.wfOn_mono hsF hFU fun tag e hs htu => by
    -- `hs : second = .calc tag e`, so of `hsec : second = cur ∨ second = .identity` the first holds
    have hcur' : (UOp.calc tag e).wfOn target.columns = true :=
      hs ▸ hsec.elim (· ▸ hcur) fun h => nomatch hs.symm.trans h
    exact ((UOp.wfOn_calc tag e _).mp hcur').2 (ih.pend_cols rfl tag htu)
  have hsreq : second.columnsRequired.subset u.columns = true := ((Bool.and_eq_true _ _).mp hsw).1
  have hcF : ∀ c, c ∈ cols → c ∈ second.appliedColumns F := by
    cases cdone with
    | true => exact fun c hc => ((hd rfl).2 c).mpr hc
    | false => exact fun c => Cols.mem_of_subset ((UOp.wfOn_proj cols _).symm.trans (hp rfl).1)
  have heq : (sem σ u).map (fun r => r.restrict F) = (sem σ target).map (fun r => r.restrict F) :=
    (ih.pend_sound rfl).1
  have hE : (second.sem (second.appliedColumns u.columns) (sem σ u)).map (fun r => r.restrict cols) =
      (cur.sem (cur.appliedColumns target.columns) (sem σ target)).map (fun r => r.restrict cols) := by
    -- locality: on top of `u`, then restricted to `cols`, `second` only looks at the columns `F` of `u`
    rw [← map_restrict_restrict _ cols _ hcF, ← (UOp.sem_restrict hkind hsw hFU ((Bool.and_eq_true _ _).mp hsF).1
      (second.appliedColumns F) _ (sem σ u)).2, heq]
    cases cdone with
    | true => exact (congrArg _ (hd rfl).1).trans (map_restrict_restrict _ cols cols fun _ h => h)
    | false => exact (hp rfl).2.1
  have hcc : ∀ c, c ∈ cols → c ∈ cur.appliedColumns target.columns :=
    fun c => Cols.mem_of_subset ((UOp.wfOn_proj cols _).symm.trans hop)
  refine ⟨by rw [hsreq]; rfl, ih.wf, ih.truthful, hsw, fun r' Fr => ?_⟩
  have hcr : ∀ c, c ∈ cols → c ∈ r'.columns :=
    fun c hc => (Fr.cols c).mpr (second.mem_appliedColumns_mono hFU (hcF c hc))
  have hEr : (sem σ r').map (fun r => r.restrict cols) =
      (cur.sem (cur.appliedColumns target.columns) (sem σ target)).map (fun r => r.restrict cols) := by
    rw [Fr.sem_eq]; exact hE
  refine ⟨fun hsub => .proj_pending Fr.wf Fr.truthful (Fr.engine.trans ih.engine) hcr
      (fun _ => Cols.mem_of_subset hsub) hEr,
    Fr.wf, Fr.truthful, ?_, fun r'' F2 => ?_⟩
  · exact (UOp.wfOn_proj _ _).trans ((Cols.subset_iff _ _).mpr fun t ht => ((Cols.mem_inter _ _ t).mp ht).1)
  · have hc2 : ∀ c, c ∈ cols → c ∈ r'.columns.inter (cur.appliedColumns target.columns) :=
      fun c hc => (Cols.mem_inter _ _ c).mpr ⟨hcr c hc, hcc c hc⟩
    refine .proj_pending F2.wf F2.truthful ((F2.engine.trans Fr.engine).trans ih.engine)
      (fun c hc => (F2.cols c).mpr (hc2 c hc)) (fun x hx => ((Cols.mem_inter _ _ x).mp ((F2.cols x).mp hx)).2) ?_
    rw [F2.sem_eq, UOp.sem_proj, map_restrict_restrict _ cols _ hc2]
    exact hEr

theorem backtrackFinish_holds {up : Res} {d : Bool}
    (hwft : target.WF) (htrt : target.Truthful σ) (hcur : cur.wfOn target.columns = true)
    (hop : o.wfOn (cur.appliedColumns target.columns) = true) (hnd : o.isProj = true → cur.isDedup = false)
    (hC : commuteSoundAt o cur target.columns (sem σ target))
    (hc : o.commute cur target.columns (cur.appliedColumns target.columns) = ⟨some f, second, cdone⟩)
    (ih : BTok σ f target (up.get target) d) :
    (backtrackFinish cur (cur.appliedColumns target.columns) target second cdone up d).Holds
      (fun out => BTok σ o (.unary cur target (cur.appliedColumns target.columns))
        (out.1.get (.unary cur target (cur.appliedColumns target.columns))) out.2)
      (· = .engine) := by
  cases d with
  | true =>
    refine backtrackFinish_done_holds (bt_step_done hC hc ih).holds fun hup hbeq => ?_
    -- the tree is what `_finish_apply` of the existing operation would build
    subst hup
    obtain rfl := commute_second_eq_of_beq hop hc hbeq
    exact (bt_step_done hC hc ih).gives _ ⟨⟨hwft, rfl, hcur⟩, htrt, rfl, fun _ => Iff.rfl, rfl⟩
  | false =>
    unfold backtrackFinish
    cases up with
    | same => exact BTok.unchanged σ o _ ⟨hwft, rfl, hcur⟩ htrt hop
    | new u =>
      replace ih : BTok σ f target u false := ih
      simp only [Bool.not_false, Bool.true_and]
      cases hp : o.isProj with
      | false =>
        obtain ⟨hrepl, G⟩ := bt_step_pending_nonproj hcur hop hp hC hc ih
        rw [hrepl]
        refine G.holds.bind fun res _ B => ?_
        -- no column leaks, so nothing is projected away
        simp only [B.2, Bool.not_true, Bool.false_eq_true, if_false]
        exact B.1
      | true =>
        obtain ⟨cols, rfl⟩ := UOp.eq_proj_of_isProj hp
        obtain ⟨F, rfl⟩ := commute_proj_first cols cur _ _ f (by rw [hc])
        obtain ⟨hrepl, G⟩ := bt_step_pending_proj hcur hop (hnd rfl) hC hc ih
        rw [hrepl]
        refine G.holds.bind fun res _ B => ?_
        split
        · exact B.2.holds.bind fun res2 _ B2 => B2
        · rename_i hsub
          exact B.1 (by simpa using hsub)

end Step

theorem appendUnary_iter_holds (σ : Leaves) (st : Store) (fuel : Nat) (o : UOp) (x : Rel)
    (hk : x.engine.kind = .iter) (hwf : x.WF) (htr : x.Truthful σ) (hop : o.wfOn x.columns = true) :
    (appendUnary st fuel (.u o) x).Holds (fun r => FinishOK σ o x (r.get x)) Err.benign := by
  cases fuel with
  | zero => rw [appendUnary]; exact Or.inr (Or.inl rfl)
  | succ k =>
    rw [appendUnary]
    simp only [hk]
    exact (FinishGives.holds ⟨hwf, htr, hop, fun _ F => F⟩).mono (fun _ _ F => F) fun _ => Or.inl

theorem applyOp_iter_holds (σ : Leaves) (st : Store) (fuel : Nat) (o : UOp) (t : Rel)
    (hk : t.engine.kind = .iter) (hwf : t.WF) (htr : t.Truthful σ) (hop : o.wfOn t.columns = true) :
    (applyOp st fuel (.u o) t {}).Holds (fun r => FinishOK σ o t (r.get t)) Err.benign := by
  -- `apply` and the `append_unary` it calls take one level of the budget each: on 0 the first gives up, on 1 the second
  match fuel with
  | 0 => rw [applyOp_fuel_zero]; exact Or.inr (Or.inl rfl)
  | 1 =>
    obtain ⟨v, hb⟩ := UOp.beginApply_total o t none hop
    rw [applyOp_default, hb, Except.ok_bind, appendUnary]
    exact Or.inr (Or.inl rfl)
  | k+2 =>
    rw [applyOp_iter_eq st k o t hk, hop]
    split
    · next hn => exact noop_sound σ o t hwf htr hn
    · exact (FinishGives.holds ⟨hwf, htr, hop, fun _ F => F⟩).mono (fun _ _ F => F) fun _ => Or.inl

/-- The half about what is raised says that a valid operation is never rejected with a column error because of where
back-tracking tried to put it.  `hpo` is used only at a Transfer whose target lives in a preferred SQL engine
(`treeBuild_sound` asks for `Good`), `hnd` only for C04 (`commute_sound`) at a unary node; both are handed on to the
recursive calls. -/
theorem backtrack_holds (σ : Leaves) (st : Store) (pref : Engine) (fuel : Nat) (o : UOp) (tree : Rel)
    (hwf : tree.WF) (htr : tree.Truthful σ) (hop : o.wfOn tree.columns = true)
    (hnd : o.isProj = true → tree.spineNoDedup) (hpo : tree.prefTargetsGood NodeInv.triv σ pref) :
    (backtrack st fuel (.u o) tree pref).Holds (fun out => BTok σ o tree (out.1.get tree) out.2)
      (fun e => pref.kind = .iter → e.benign) := by
  induction fuel generalizing o tree with
  | zero => rw [backtrack]; exact fun _ => Or.inr (Or.inl rfl)
  | succ fuel rec =>
    rcases backtrack_step st fuel (.u o) tree pref with
      hs | hs | ⟨oid, dest, target, rfl, hk, hs⟩ | ⟨cur, target, ccols, rfl, hk, hs⟩ <;> rw [hs]
    · exact BTok.unchanged σ o tree hwf htr hop
    · exact fun _ => Or.inr (Or.inr rfl)
    · obtain ⟨hgood, hpo'⟩ := hpo
      split
      · -- the target lives in the preferred engine: the operation is applied there
        rename_i he
        have happ : (applyOp st fuel (.u o) target {}).Holds (fun r => FinishOK σ o target (r.get target))
            (fun e => pref.kind = .iter → e.benign) := by
          cases hpk : pref.kind with
          | iter =>
            exact (applyOp_iter_holds σ st fuel o target (by rw [beq_iff_eq.mp he]; exact hpk) hwf htr hop).mono
              (fun _ _ F => F) fun _ h _ => h
          | sql =>
            exact Except.holds_iff.mpr ⟨fun r h =>
              ((treeBuild_sound σ st fuel).apply o target r (hgood (beq_iff_eq.mp he) hpk) h).2.1, fun _ _ => nofun⟩
        exact happ.map fun r _ F => (BTok.of_finish F).reapplyTransfer st oid dest
      · exact (rec o target hwf htr hop hnd hpo').map fun out _ B => B.reapplyTransfer st oid dest
    · obtain ⟨hwft, rfl, hcur⟩ := hwf
      have hC : commuteSoundAt o cur target.columns (sem σ target) :=
        commute_sound o cur _ _ (metadata_truthful σ target hwft htr).keys hcur hop (fun c hc => (hnd (hc ▸ rfl)).1)
      simp only [AnyOp.commute]
      rcases hc : o.commute cur target.columns (cur.appliedColumns target.columns) with ⟨_ | f, second, cdone⟩
      · cases (UOp.commute_none o cur _ _ (by rw [hc])).symm.trans hc
        exact BTok.unchanged σ o _ ⟨hwft, rfl, hcur⟩ htr hop
      · have hfnd : f.isProj = true → target.spineNoDedup := fun hfp => by
          cases hp : o.isProj with
          | true => exact (hnd hp).2
          | false => rw [(commute_done_of_nonproj hc hp).1, hp] at hfp; cases hfp
        refine (rec f target hwft htr ((commuteSoundAt_iff hc).mp hC).1 hfnd hpo).bind fun out _ ih => ?_
        exact (backtrackFinish_holds hwft htr hcur hop (fun hp => (hnd hp).1) hC hc ih).mono (fun _ _ B => B)
          fun _ he _ => Or.inl he

theorem backtrack_sound (σ : Leaves) (st : Store) (pref : Engine) :
    (fuel : Nat) → (o : UOp) → (tree : Rel) → (res : Res) → (done : Bool) →
    tree.WF → tree.Truthful σ → o.wfOn tree.columns = true → (o.isProj = true → tree.spineNoDedup) →
    tree.prefTargetsGood NodeInv.triv σ pref →
    backtrack st fuel (.u o) tree pref = .ok (res, done) → BTok σ o tree (res.get tree) done :=
  fun fuel o tree _ _ hwf htr hop hnd hpo h => (backtrack_holds σ st pref fuel o tree hwf htr hop hnd hpo).of_ok h

/-- A relation `x` that stands in for `t` while `apply` is under way: applying `o'` on top of `x` gives what
applying it on top of `t` gives. -/
structure Pending (σ : Leaves) (o' : UOp) (t x : Rel) (opts : Opts) : Prop where
  wf : x.WF
  truthful : x.Truthful σ
  op_wf : o'.wfOn x.columns = true
  sem_eq : o'.sem (o'.appliedColumns x.columns) (sem σ x) = o'.sem (o'.appliedColumns t.columns) (sem σ t)
  cols : ∀ c, c ∈ o'.appliedColumns x.columns ↔ c ∈ o'.appliedColumns t.columns
  engine : x.engine = t.engine ∨ (opts.transfer = true ∧ opts.pref = some x.engine)

theorem Pending.transferred {σ : Leaves} {o' : UOp} {t x y : Rel} {opts : Opts} (P : Pending σ o' t x opts)
    (hwf : y.WF) (htr : y.Truthful σ) (hs : sem σ y = sem σ x) (hc : ∀ c, c ∈ y.columns ↔ c ∈ x.columns)
    (he : opts.transfer = true ∧ opts.pref = some y.engine) : Pending σ o' t y opts :=
  { wf := hwf, truthful := htr, op_wf := (UOp.wfOn_congr o' _ _ hc).trans P.op_wf,
    sem_eq := (o'.sem_applied_congr hc _).trans (hs ▸ P.sem_eq),
    cols := fun c => (UOp.appliedColumns_congr o' _ _ hc c).trans (P.cols c), engine := Or.inr he }

/-- `applyAfterBegin_holds` for a unary operation: `x` stands in for `t` when `Pending σ o' t x opts`, and `Q x`,
whatever else the caller knows of the relations the steps are applied to. -/
theorem applyAfterBegin_unary_holds {σ : Leaves} {st : Store} {fuel : Nat} {o' : UOp} {pref : Engine} {t : Rel}
    {opts : Opts} (Q : Rel → Prop) {E : Err → Prop} (hwf : t.WF) (htr : t.Truthful σ)
    (ho' : o'.wfOn t.columns = true) (hQ : Q t) (hE : E .engine)
    (hfin : ∀ x, Pending σ o' t x opts → Q x →
      (appendUnary st fuel (.u o') x).Holds (fun r => FinishOK σ o' x (r.get x)) E)
    (hbt : pref ≠ t.engine → opts.backtrack = true →
      (backtrack st fuel (.u o') t pref).Holds
        (fun out => BTok σ o' t (out.1.get t) out.2 ∧ (out.2 = false → Q (out.1.get t))) E)
    (htf : ∀ x, pref ≠ t.engine → opts.transfer = true → Pending σ o' t x opts → Q x → x.engine = t.engine →
      (transferTo st fuel pref x).Holds (fun r2 => Pending σ o' t (r2.get x) opts ∧ Q (r2.get x)) E) :
    (applyAfterBegin st fuel (.u o') pref t opts).Holds (fun res => ApplyOK σ o' t (res.get t) opts) E := by
  refine applyAfterBegin_holds (S := fun x => Pending σ o' t x opts ∧ Q x) (R := fun x => ApplyOK σ o' t x opts)
    ⟨{ wf := hwf, truthful := htr, op_wf := ho', sem_eq := rfl, cols := fun _ => Iff.rfl, engine := Or.inl rfl }, hQ⟩ hE
    (fun x s => (hfin x s.1 s.2).mono (fun r _ F => ?_) fun _ h => h)
    (fun he hbk => (hbt he hbk).mono (fun out _ B => ⟨fun hd => ?_, fun hd => ?_⟩) fun _ h => h)
    (fun x he ht s hx => htf x he ht s.1 s.2 hx)
  · exact ⟨F.sem_eq.trans s.1.sem_eq, fun c => (F.cols c).trans (s.1.cols c), F.wf, F.truthful,
      F.engine ▸ s.1.engine⟩
  · obtain ⟨e1, e2⟩ := B.1.done_sound hd
    exact ⟨e1, e2, B.1.wf, B.1.truthful, Or.inl B.1.engine⟩
  · exact ⟨⟨{ wf := B.1.wf, truthful := B.1.truthful, op_wf := B.1.pend_wf hd, sem_eq := (B.1.pend_sound hd).1,
               cols := (B.1.pend_sound hd).2, engine := Or.inl B.1.engine }, B.2 hd⟩, B.1.engine⟩

theorem applyOp_holds_of_begin (σ : Leaves) (st : Store) (fuel : Nat) (o : UOp) (t : Rel) (opts : Opts)
    (E : Err → Prop) (hwf : t.WF) (htr : t.Truthful σ)
    (h : ∀ o' pref, o'.wfOn t.columns = true → (o'.isProj = true → o' = o) →
      (pref ≠ t.engine → opts.pref = some pref) →
      (applyAfterBegin st fuel (.u o') pref t opts).Holds (fun res => ApplyOK σ o' t (res.get t) opts) E) :
    (applyOp st (fuel+1) (.u o) t opts).Holds (fun res => ApplyOK σ o t (res.get t) opts)
      (fun e => o.wfOn t.columns = true → E e) := by
  rw [applyOp_eq_begin]
  simp only [AnyOp.beginApply]
  cases hb : o.beginApply t opts.pref with
  | error e => exact fun hop => by obtain ⟨v, hv⟩ := UOp.beginApply_total o t opts.pref hop; rw [hv] at hb; cases hb
  | ok v =>
    obtain ⟨o', pref⟩ := v
    obtain ⟨hcases, hpref⟩ := UOp.beginApply_inv o t opts.pref o' pref hb
    rcases hcases with ⟨rfl, hw⟩ | ⟨rfl, hn⟩
    · exact (h o' pref hw (fun _ => rfl) hpref.resolve_left).mono (fun _ _ A => A) fun _ h _ => h
    · -- the identity placeholder stands for an operation that does nothing here
      have N := noop_sound σ o t hwf htr hn
      exact (h .identity pref rfl nofun hpref.resolve_left).mono (fun _ _ A =>
        ⟨A.sem_eq.trans N.sem_eq, fun x => (A.cols x).trans (N.cols x), A.wf, A.truthful, A.engine⟩) fun _ h _ => h

theorem prefTargetsGood_of_iter (σ : Leaves) (pref : Engine) (hpk : pref.kind = .iter) (t : Rel) :
    t.prefTargetsGood NodeInv.triv σ pref := by
  induction t with
  | unary _ _ _ ih => exact ih
  | transfer _ _ _ ih => exact ⟨fun _ hq => (nomatch hpk.symm.trans hq), ih⟩
  | _ => trivial

/-- **`UnaryOperation.apply` with any preferred-engine options, both outcomes** (iteration engines; projections not
across a deduplication: finding F04).  What it raises for an operation that is well-formed for the target is the
documented `EngineError` (unsupported expression, or `require_preferred_engine` could not be honoured) or one of
the two model artefacts - never a column error. -/
theorem applyOp_holds (σ : Leaves) (st : Store) (fuel : Nat) (o : UOp) (t : Rel) (opts : Opts)
    (hkt : t.engine.kind = .iter) (hpk : ∀ p, opts.pref = some p → p.kind = .iter)
    (hwf : t.WF) (htr : t.Truthful σ) (hnd : o.isProj = true → t.spineNoDedup) :
    (applyOp st (fuel+1) (.u o) t opts).Holds (fun res => ApplyOK σ o t (res.get t) opts)
      (fun e => o.wfOn t.columns = true → e.benign) := by
  refine applyOp_holds_of_begin σ st fuel o t opts Err.benign hwf htr fun o' pref ho'wf ho'o hpo => ?_
  have hprefk : pref.kind = .iter := by
    by_cases he : pref = t.engine
    · exact he ▸ hkt
    · exact hpk pref (hpo he)
  have hxk : ∀ x, Pending σ o' t x opts → x.engine.kind = .iter :=
    fun x P => P.engine.elim (fun h => h ▸ hkt) fun h => hpk _ h.2
  refine applyAfterBegin_unary_holds (fun _ => True) hwf htr ho'wf trivial (Or.inl rfl) ?_ ?_ ?_
  · exact fun x P _ => appendUnary_iter_holds σ st fuel o' x (hxk x P) P.wf P.truthful P.op_wf
  · exact fun _ _ => (backtrack_holds σ st pref fuel o' t hwf htr ho'wf (fun hp => hnd (ho'o hp ▸ hp))
      (prefTargetsGood_of_iter σ pref hprefk t)).mono (fun _ _ B => ⟨B, fun _ => trivial⟩) fun _ h => h hprefk
  · intro x he htrf P _ _
    exact (transferTo_iter_holds σ st fuel pref x hprefk (hxk x P)).mono
      (fun r2 _ ⟨t1, t2, t3, t4, t5⟩ =>
        ⟨P.transferred (t4 P.wf) (t5 P.truthful) t1 (fun _ => t3 ▸ Iff.rfl) ⟨htrf, t2 ▸ hpo he⟩, trivial⟩)
      fun _ h => Or.inr (Or.inl h)

theorem applyOp_sound (σ : Leaves) (st : Store) (fuel : Nat) (o : UOp) (t : Rel) (opts : Opts) (res : Res)
    (hkt : t.engine.kind = .iter) (hpk : ∀ p, opts.pref = some p → p.kind = .iter)
    (hwf : t.WF) (htr : t.Truthful σ) (hnd : o.isProj = true → t.spineNoDedup)
    (h : applyOp st (fuel+1) (.u o) t opts = .ok res) : ApplyOK σ o t (res.get t) opts :=
  (applyOp_holds σ st fuel o t opts hkt hpk hwf htr hnd).of_ok h

/-- `_finish_apply` in an iteration engine, the SQL tree-building induction in a database. -/
theorem appendUnary_either_holds (σ : Leaves) (st : Store) (fuel : Nat) (o' : UOp) (x : Rel)
    (hwf : x.WF) (htr : x.Truthful σ) (hop : o'.wfOn x.columns = true)
    (hxg : x.engine.kind = .sql → Good NodeInv.triv σ x) :
    (appendUnary st fuel (.u o') x).Holds (fun r => FinishOK σ o' x (r.get x)) fun _ => True := by
  cases hxk : x.engine.kind with
  | iter => exact (appendUnary_iter_holds σ st fuel o' x hxk hwf htr hop).mono (fun _ _ F => F) fun _ _ => trivial
  | sql => exact Except.holds_of_ok fun r ha => ((treeBuild_sound σ st fuel).appendUnary o' x r (hxg hxk) hop ha).2.1

/-- What `applyOp_sql_target_sound` and `applyOp_iter_target_transfer_sound` know, beyond `Pending`, of the stand-ins
they meet (their `Q` in `applyAfterBegin_unary_holds`): covered by the SQL tree-building theorems when in a database;
and when a transfer is to come, the target itself (the transfer lemma speaks of nothing else) or the target
transferred. -/
def StandIn (σ : Leaves) (t : Rel) (opts : Opts) (x : Rel) : Prop :=
  (x.engine.kind = .sql → Good NodeInv.triv σ x) ∧ (opts.transfer = true → x = t ∨ x.engine ≠ t.engine)

theorem pending_of_transfer (σ : Leaves) (st : Store) (fuel : Nat) {o' : UOp} (pref : Engine) {t x : Rel} {opts : Opts}
    (hg : t.engine.kind = .sql → Good NodeInv.triv σ t) (he : pref ≠ t.engine) (htrf : opts.transfer = true)
    (hpo : opts.pref = some pref) (hs : transferSimplify pref t = none) (P : Pending σ o' t x opts)
    (hx : StandIn σ t opts x) (hxe : x.engine = t.engine) :
    (transferTo st fuel pref x).Holds (fun r2 => Pending σ o' t (r2.get x) opts ∧ StandIn σ t opts (r2.get x))
      fun _ => True := by
  obtain rfl : x = t := (hx.2 htrf).resolve_right fun h => h hxe
  refine Except.holds_of_ok fun r2 htt => ?_
  obtain ⟨t1, t2, t3, t4, t5, t6⟩ := transferTo_sound_of_none σ st fuel pref x r2 P.wf P.truthful hg hs htt
  exact ⟨P.transferred t3 t4 t1 t2 ⟨htrf, t5 ▸ hpo⟩, fun hq => t6 (t5 ▸ hq), fun _ => Or.inr (t5 ▸ he)⟩

/-- A target in a database: any relation the tree-building theorems cover, a raw tree or what the factories made of
one.  `hs` is needed where `apply` transfers, and nowhere else. -/
theorem applyOp_sql_target_sound (σ : Leaves) (st : Store) (fuel : Nat) (o : UOp) (t : Rel) (opts : Opts) (res : Res)
    (gt : Good NodeInv.triv σ t)
    (hs : opts.transfer = true → ∀ p, opts.pref = some p → transferSimplify p t = none)
    (h : applyOp st (fuel+1) (.u o) t opts = .ok res) : ApplyOK σ o t (res.get t) opts := by
  refine (applyOp_holds_of_begin σ st fuel o t opts (fun _ => True) gt.wf gt.truthful
    fun o' pref ho'wf _ hpo => ?_).of_ok h
  have hQ : StandIn σ t opts t := ⟨fun _ => gt, fun _ => Or.inl rfl⟩
  refine applyAfterBegin_unary_holds (StandIn σ t opts) gt.wf gt.truthful ho'wf hQ trivial ?_ ?_ ?_
  · exact fun x P hq => appendUnary_either_holds σ st fuel o' x P.wf P.truthful P.op_wf hq.1
  · intro _ _
    cases fuel with
    | zero => rw [backtrack]; trivial
    | succ fuel =>
      rw [backtrack_sql st fuel _ t pref gt.sql]
      exact ⟨BTok.unchanged σ o' t gt.wf gt.truthful ho'wf, fun _ => hQ⟩
  · exact fun x he htrf P hq hxe =>
      pending_of_transfer σ st fuel pref (fun _ => gt) he htrf (hpo he) (hs htrf pref (hpo he)) P hq hxe

/-- Preferred engine of either family; back-tracking and transfer are not combined. -/
theorem applyOp_iter_target_transfer_sound (σ : Leaves) (st : Store) (fuel : Nat) (o : UOp) (t : Rel) (opts : Opts)
    (res : Res) (hkt : t.engine.kind = .iter) (hwf : t.WF) (htr : t.Truthful σ)
    (hnd : o.isProj = true → t.spineNoDedup) (hpo : ∀ p, opts.pref = some p → t.prefTargetsGood NodeInv.triv σ p)
    (htf : opts.transfer = true → opts.backtrack = false ∧ ∀ p, opts.pref = some p → transferSimplify p t = none)
    (h : applyOp st (fuel+1) (.u o) t opts = .ok res) : ApplyOK σ o t (res.get t) opts := by
  refine (applyOp_holds_of_begin σ st fuel o t opts (fun _ => True) hwf htr fun o' pref ho'wf ho'o hpref => ?_).of_ok h
  have hiter : ∀ x : Rel, x.engine = t.engine → x.engine.kind = .sql → Good NodeInv.triv σ x :=
    fun x hx hq => by rw [hx, hkt] at hq; cases hq
  refine applyAfterBegin_unary_holds (StandIn σ t opts) hwf htr ho'wf ⟨hiter t rfl, fun _ => Or.inl rfl⟩ trivial
    ?_ ?_ ?_
  · exact fun x P hq => appendUnary_either_holds σ st fuel o' x P.wf P.truthful P.op_wf hq.1
  · intro he hbk
    refine (backtrack_holds σ st pref fuel o' t hwf htr ho'wf (fun hp => hnd (ho'o hp ▸ hp))
      (hpo pref (hpref he))).mono (fun out _ B => ?_) fun _ _ => trivial
    -- a back-tracked stand-in meets no transfer
    exact ⟨B, fun _ => ⟨hiter _ B.engine, fun ht => by rw [(htf ht).1] at hbk; cases hbk⟩⟩
  · exact fun x he htrf P hq hxe => pending_of_transfer σ st fuel pref (fun hq => by rw [hkt] at hq; cases hq)
      he htrf (hpref he) ((htf htrf).2 pref (hpref he)) P hq hxe

end DafRel
