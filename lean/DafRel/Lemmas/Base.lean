/-
Conditionals, column sets (`Cols`, lists read as sets) through membership, and the `Except` monad from outside.  A
hypothesis `h : (do let a ← x; f a) = .ok b` is taken apart by `obtain ⟨a, hx, hf⟩ := Except.bind_eq_ok.mp h`
instead of unfolding `bind` and casing on `x`; `Except.Holds P Q x` states what a call returns (`P`) and what it
raises (`Q`) at once, with a rule for each `do` step.
-/
import DafRel.Model.Basic

namespace DafRel

theorem ite_not_eq_true {α : Type} (b : Bool) (x y : α) :
    (if (!b) = true then x else y) = if b = true then y else x := by cases b <;> rfl

theorem ite_or {α : Type} (a b : Bool) (x y : α) :
    (if a || b then x else y) = if a then x else if b then x else y := by
  cases a <;> rfl

/-- Two refusal tests in a row are one test for moving (`UOp.moves`, `Lemmas/Commute.lean`). -/
theorem ite_refuse_refuse {α : Type} (a b : Bool) (x y : α) :
    (if (!a) = true then y else if b = true then y else x) = if (a && !b) = true then x else y := by
  cases a <;> cases b <;> rfl

theorem ite_refuse_refuse' {α : Type} (a : Bool) (q : Prop) [Decidable q] (x y : α) :
    (if (!a) = true then y else if q then y else x) = if (a && decide ¬q) = true then x else y := by
  cases a <;> by_cases q <;> simp [*]

end DafRel

namespace DafRel.Cols

theorem mem_union (a b : Cols) (t : Tag) : t ∈ a.union b ↔ t ∈ a ∨ t ∈ b := by
  simp only [union, List.mem_append, List.mem_filter, decide_eq_true_eq]
  exact ⟨fun h => h.imp_right And.left, fun h => (Decidable.em (t ∈ a)).imp_right fun ha => ⟨h.resolve_left ha, ha⟩⟩

theorem mem_inter (a b : Cols) (t : Tag) : t ∈ a.inter b ↔ t ∈ a ∧ t ∈ b := by
  simp [inter, List.mem_filter]

theorem mem_diff (a b : Cols) (t : Tag) : t ∈ a.diff b ↔ t ∈ a ∧ t ∉ b := by
  simp [diff]

theorem mem_insert (a : Cols) (x t : Tag) : t ∈ a.insert x ↔ t ∈ a ∨ t = x := by
  unfold insert
  split
  · rename_i h
    exact ⟨Or.inl, fun h' => h'.elim id (· ▸ h)⟩
  · simp

theorem subset_iff (a b : Cols) : a.subset b = true ↔ ∀ t, t ∈ a → t ∈ b := by
  simp [subset, List.all_eq_true]

theorem seteq_iff (a b : Cols) : a.seteq b = true ↔ ∀ t, t ∈ a ↔ t ∈ b := by
  simp only [seteq, Bool.and_eq_true, subset_iff]
  exact ⟨fun ⟨h1, h2⟩ t => ⟨h1 t, h2 t⟩, fun h => ⟨fun t => (h t).mp, fun t => (h t).mpr⟩⟩

theorem mem_of_subset {a b : Cols} (h : a.subset b = true) {t : Tag} (ht : t ∈ a) : t ∈ b :=
  (subset_iff a b).mp h t ht

theorem subset_mono {a b c : Cols} (h : a.subset b = true) (hbc : ∀ t, t ∈ b → t ∈ c) : a.subset c = true :=
  (subset_iff a c).mpr fun t ht => hbc t (mem_of_subset h ht)

theorem subset_trans {a b c : Cols} (h : a.subset b = true) (h' : b.subset c = true) : a.subset c = true :=
  subset_mono h fun _ => mem_of_subset h'

theorem seteq_refl (c : Cols) : c.seteq c = true := (seteq_iff c c).mpr fun _ => Iff.rfl

theorem subset_congr (a : Cols) {b c : Cols} (h : ∀ t, t ∈ b ↔ t ∈ c) : a.subset b = a.subset c := by
  rw [Bool.eq_iff_iff, subset_iff, subset_iff]
  exact ⟨fun g t ht => (h t).mp (g t ht), fun g t ht => (h t).mpr (g t ht)⟩

theorem eq_nil_of_isEmpty (c : Cols) (h : c.isEmpty = true) : c = [] := List.isEmpty_iff.mp h

theorem mem_diff_singleton (c : Cols) (tag x : Tag) : x ∈ c.diff [tag] ↔ x ∈ c ∧ x ≠ tag := by
  rw [Cols.mem_diff]; simp

theorem mem_union_mono {a a' b b' : Cols} (ha : ∀ t, t ∈ a → t ∈ a') (hb : ∀ t, t ∈ b → t ∈ b') :
    ∀ t, t ∈ a.union b → t ∈ a'.union b' :=
  fun t ht => (mem_union _ _ _).mpr (((mem_union _ _ _).mp ht).imp (ha t) (hb t))

theorem mem_union_congr {a a' b b' : Cols} (ha : ∀ t, t ∈ a ↔ t ∈ a') (hb : ∀ t, t ∈ b ↔ t ∈ b') :
    ∀ t, t ∈ a.union b ↔ t ∈ a'.union b' :=
  fun t => ⟨mem_union_mono (fun t => (ha t).mp) (fun t => (hb t).mp) t,
    mem_union_mono (fun t => (ha t).mpr) (fun t => (hb t).mpr) t⟩

theorem eq_nil_of_subset_nil {a : Cols} (h : a.subset [] = true) : a = [] := by
  cases a with
  | nil => rfl
  | cons x _ => exact nomatch mem_of_subset h (List.mem_cons_self (a := x))

end DafRel.Cols

namespace Except

variable {ε α β : Type _}

theorem ok_bind (a : α) (f : α → Except ε β) : Except.ok a >>= f = f a := rfl

theorem bind_eq_ok {x : Except ε α} {f : α → Except ε β} {b : β} :
    x >>= f = .ok b ↔ ∃ a, x = .ok a ∧ f a = .ok b := by
  cases x with
  | error e => exact ⟨fun h => (nomatch h), fun ⟨_, h, _⟩ => (nomatch h)⟩
  | ok a => exact ⟨fun h => ⟨a, rfl, h⟩, fun ⟨_, h, hf⟩ => by cases h; exact hf⟩

theorem ite_error_eq_ok {c : Prop} [Decidable c] {e : ε} {x : Except ε α} {a : α} :
    (if c then .error e else x) = .ok a ↔ ¬c ∧ x = .ok a := by
  by_cases hc : c
  · rw [if_pos hc]; exact ⟨nofun, fun h => absurd hc h.1⟩
  · rw [if_neg hc]; exact ⟨fun h => ⟨hc, h⟩, fun h => h.2⟩

theorem map_eq_ok {x : Except ε α} {f : α → β} {b : β} :
    f <$> x = .ok b ↔ ∃ a, x = .ok a ∧ f a = b := by
  cases x with
  | error e => exact ⟨fun h => (nomatch h), fun ⟨_, h, _⟩ => (nomatch h)⟩
  | ok a => exact ⟨fun h => ⟨a, rfl, by cases h; rfl⟩, fun ⟨_, h, hf⟩ => by cases h; cases hf; rfl⟩

theorem pure_eq_ok {a b : α} : (pure a : Except ε α) = .ok b ↔ a = b :=
  ⟨fun h => by cases h; rfl, fun h => by cases h; rfl⟩

theorem bind_pure_eq_ok {x : Except ε α} {f : α → β} {b : β} :
    (x >>= fun a => pure (f a)) = .ok b ↔ ∃ a, x = .ok a ∧ f a = b := by
  simp only [bind_eq_ok, pure_eq_ok]

theorem bind_map_eq_ok {γ : Type _} {x : Except ε α} {y : Except ε β} {g : α → β → γ} {c : γ} :
    (x >>= fun a => g a <$> y) = .ok c ↔ ∃ a, x = .ok a ∧ ∃ b, y = .ok b ∧ g a b = c :=
  Except.bind_eq_ok.trans (exists_congr fun _ => and_congr_right fun _ => Except.map_eq_ok)

theorem exists_map_eq_ok {x : Except ε α} {f : α → β} :
    (∃ b, f <$> x = .ok b) ↔ ∃ a, x = .ok a :=
  ⟨fun ⟨_, h⟩ => let ⟨a, ha, _⟩ := Except.map_eq_ok.mp h; ⟨a, ha⟩,
    fun ⟨a, ha⟩ => ⟨f a, Except.map_eq_ok.mpr ⟨a, ha, rfl⟩⟩⟩

theorem exists_bind_map_eq_ok {γ : Type _} {x : Except ε α} {y : Except ε β} {g : α → β → γ} :
    (∃ c, (x >>= fun a => g a <$> y) = .ok c) ↔ (∃ a, x = .ok a) ∧ ∃ b, y = .ok b :=
  ⟨fun ⟨_, h⟩ => let ⟨a, ha, b, hb, _⟩ := Except.bind_map_eq_ok.mp h; ⟨⟨a, ha⟩, b, hb⟩,
    fun ⟨⟨a, ha⟩, b, hb⟩ => ⟨g a b, Except.bind_map_eq_ok.mpr ⟨a, ha, b, hb, rfl⟩⟩⟩

def Holds (P : α → Prop) (Q : ε → Prop) : Except ε α → Prop
  | .ok a => P a
  | .error e => Q e

theorem holds_iff {P : α → Prop} {Q : ε → Prop} {x : Except ε α} :
    x.Holds P Q ↔ (∀ a, x = .ok a → P a) ∧ (∀ e, x = .error e → Q e) := by
  cases x with
  | ok a => exact ⟨fun h => ⟨fun _ h' => by cases h'; exact h, nofun⟩, fun h => h.1 a rfl⟩
  | error e => exact ⟨fun h => ⟨nofun, fun _ h' => by cases h'; exact h⟩, fun h => h.2 e rfl⟩

theorem Holds.of_ok {P : α → Prop} {Q : ε → Prop} {x : Except ε α} {a : α} (h : x.Holds P Q) (hx : x = .ok a) :
    P a := (holds_iff.mp h).1 a hx

theorem Holds.of_error {P : α → Prop} {Q : ε → Prop} {x : Except ε α} {e : ε} (h : x.Holds P Q)
    (hx : x = .error e) : Q e := (holds_iff.mp h).2 e hx

theorem holds_of_ok {P : α → Prop} {x : Except ε α} (h : ∀ a, x = .ok a → P a) : x.Holds P fun _ => True :=
  holds_iff.mpr ⟨h, fun _ _ => trivial⟩

theorem Holds.mono {P P' : α → Prop} {Q Q' : ε → Prop} {x : Except ε α} (h : x.Holds P Q)
    (hP : ∀ a, x = .ok a → P a → P' a) (hQ : ∀ e, Q e → Q' e) : x.Holds P' Q' := by
  cases x with
  | ok a => exact hP a rfl h
  | error e => exact hQ e h

theorem Holds.bind {P' : α → Prop} {P : β → Prop} {Q : ε → Prop} {x : Except ε α} {f : α → Except ε β}
    (hx : x.Holds P' Q) (hf : ∀ a, x = .ok a → P' a → (f a).Holds P Q) : (x >>= f).Holds P Q := by
  cases x with
  | ok a => exact hf a rfl hx
  | error e => exact hx

theorem Holds.map {P' : α → Prop} {P : β → Prop} {Q : ε → Prop} {x : Except ε α} {f : α → β}
    (hx : x.Holds P' Q) (hf : ∀ a, x = .ok a → P' a → P (f a)) : (x.map f).Holds P Q := by
  cases x with
  | ok a => exact hf a rfl hx
  | error e => exact hx

end Except
