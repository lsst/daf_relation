/-
Construction histories inside one iteration engine (`Spec/History.lean`): the tree that the factory
calls `UnaryOperation.apply` (no preferred engine), `chain` and `materialized` build for a history
satisfies the invariants collected in `Built` (with `Lemmas/Exec.lean`: C01 for whole histories) and is
engine-consistent (`Rel.EngineOK`, C14); one induction along `Build.tree` gives both.
-/
import DafRel.Lemmas.Apply
import DafRel.Lemmas.Dedup
import DafRel.Spec.History

namespace DafRel

structure Built (σ : Leaves) (eng : Engine) (b : Build) (r : Rel) : Prop where
  wf : r.WF
  truthful : r.Truthful σ
  iterOK : r.IterOK
  kd : keyDetermined σ r = true
  sem_eq : sem σ r = b.direct σ
  cols : ∀ c, c ∈ r.columns ↔ c ∈ b.cols
  engine : r.engine = eng

/-- `Built` sees neither a `mat` step of the history nor a materialization node on the tree. -/
theorem Built.mat {σ : Leaves} {eng : Engine} {b : Build} {t : Rel} (B : Built σ eng b t) (oid : Nat) (name : String)
    (r : Rel) (hr : r = t ∨ r = .mat oid name t) : Built σ eng (.mat oid name b) r := by
  rcases hr with rfl | rfl <;>
    exact { wf := B.wf, truthful := B.truthful, iterOK := B.iterOK, kd := B.kd, sem_eq := B.sem_eq, cols := B.cols,
            engine := B.engine }

theorem build_invariants (σ : Leaves) (st : Store) (eng : Engine) (hk : eng.kind = .iter) :
    (b : Build) → (r : Rel) → b.ok σ → b.tree st eng = .ok r → Built σ eng b r ∧ r.EngineOK := by
  intro b r hok h
  -- the branches of `Build.tree`: 1 `leaf`, 2-4 `op`, 5-8 `chain`, 9-13 `mat` (`materialize` returned: 11 the tree
  -- itself, 12 a new Materialization, 13 any other new node, which it never does)
  fun_induction Build.tree st eng b generalizing r with
  | case2 | case3 | case5 | case6 | case7 | case9 | case10 => cases h
  | case1 oid cols name mn mx msgs =>
    cases h
    exact ⟨{ wf := trivial, truthful := hok, iterOK := rfl, kd := rfl, sem_eq := rfl, cols := fun _ => Iff.rfl,
             engine := rfl }, trivial⟩
  | case4 o b t hb res ha ih =>
    cases h
    obtain ⟨hokb, har, hkd⟩ := hok
    obtain ⟨ih, ihe⟩ := ih t hokb hb
    have fin : ∀ r', FinishOK σ o t r' → r'.IterOK → keyDetermined σ r' = true → Built σ eng (.op o b) r' :=
      fun r' f hi hkd' =>
        { wf := f.wf, truthful := f.truthful, iterOK := hi, kd := hkd', sem_eq := (f.on ih.sem_eq ih.cols).1,
          cols := (f.on ih.sem_eq ih.cols).2, engine := f.engine.trans ih.engine }
    rw [defaultFuel_eq] at ha
    rcases applyOp_iter_inv st _ o t res (ih.engine ▸ hk) ha with ⟨hn, rfl⟩ | ⟨hn, hw, hfin⟩
    · exact ⟨fin _ (noop_sound σ o t ih.wf ih.truthful hn) ih.iterOK ih.kd, ihe⟩
    · have hid : o.isIdentity = false := UOp.not_identity_of_not_noop hn
      exact ⟨fin _ (finishApply_sound σ t o ih.wf ih.truthful hw res hfin)
        (finishApply_iterOK t o res ih.iterOK ⟨hid, har⟩ hfin)
        (finishApply_keyDetermined σ t o res ih.kd
          (fun hd => by rw [rowsKeyDetermined_congr _ _ ih.cols, ih.sem_eq]; exact hkd hd) hfin),
        finishApply_engineOK t o res ihe hid hfin⟩
  | case8 a b ta ha tb hb res hbin iha ihb =>
    cases h
    obtain ⟨iha, ea⟩ := iha ta hok.1 ha
    obtain ⟨ihb, eb⟩ := ihb tb hok.2 hb
    obtain ⟨heng, hc, hres⟩ := binaryApply_chain_iter_inv (iha.engine ▸ hk) hbin
    rw [hres]
    exact ⟨{ wf := ⟨iha.wf, ihb.wf, rfl, hc⟩, truthful := ⟨iha.truthful, ihb.truthful⟩,
             iterOK := ⟨iha.iterOK, ihb.iterOK, heng, trivial⟩, kd := (Bool.and_eq_true _ _).mpr ⟨iha.kd, ihb.kd⟩,
             sem_eq := congr (congrArg _ iha.sem_eq) ihb.sem_eq, cols := iha.cols, engine := iha.engine },
      ea, eb, heng, trivial⟩
  | case11 oid name b t hb hm ih => cases h; exact ⟨(ih t hok hb).1.mat oid name _ (.inl rfl), (ih t hok hb).2⟩
  | case12 oid name b t hb i n t' hm ih =>
    cases h
    rw [defaultFuel_eq, materialize_iter st _ t name ((ih t hok hb).1.engine ▸ hk)] at hm
    split at hm <;> cases hm
    exact ⟨(ih t hok hb).1.mat oid name _ (.inr rfl), (ih t hok hb).2⟩
  | case13 oid name b t hb x hx hm ih =>
    rw [defaultFuel_eq, materialize_iter st _ t name ((ih t hok hb).1.engine ▸ hk)] at hm
    split at hm <;> cases hm
    exact (hx _ _ _ rfl).elim

theorem build_invariant (σ : Leaves) (st : Store) (eng : Engine) (hk : eng.kind = .iter)
    (b : Build) (r : Rel) (hok : b.ok σ) (h : b.tree st eng = .ok r) : Built σ eng b r :=
  (build_invariants σ st eng hk b r hok h).1

end DafRel
