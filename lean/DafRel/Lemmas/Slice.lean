/-
Slices: `Slice.then` is total and composes positional windows exactly; the lazy
`SliceRowIterable` enumeration equals Python slicing.
-/
import DafRel.Model.Sem
import DafRel.Model.IterExec

namespace DafRel

variable {α : Type}

theorem getElem?_sliceList (s : Nat) (e : Option Nat) (l : List α) (i : Nat) :
    (sliceList s e l)[i]? =
      match e with
      | none => l[s + i]?
      | some e => if s + i < e then l[s + i]? else none := by
  cases e <;> simp only [sliceList, List.getElem?_drop, List.getElem?_take]

theorem length_sliceList (s : Nat) (e : Option Nat) (l : List α) :
    (sliceList s e l).length = (match e with | none => l.length | some e => min e l.length) - s := by
  cases e <;> simp [sliceList]

theorem sliceList_sublist (s : Nat) (e : Option Nat) (l : List α) : (sliceList s e l).Sublist l := by
  unfold sliceList
  cases e with
  | none => exact List.drop_sublist _ _
  | some e => exact (List.drop_sublist _ _).trans (List.take_sublist _ _)

@[simp] theorem sliceList_zero_none (l : List α) : sliceList 0 none l = l := rfl

theorem sliceList_map {β : Type} (g : α → β) (s : Nat) (e : Option Nat) (l : List α) :
    sliceList s e (l.map g) = (sliceList s e l).map g := by
  cases e <;> simp [sliceList, List.map_drop, List.map_take]

/-- A stop below the start selects nothing, so clamping the stop to the start changes nothing. -/
theorem sliceList_clamp (s : Nat) (e : Option Nat) (l : List α) :
    sliceList s (e.map (max · s)) l = sliceList s e l := by
  cases e with
  | none => rfl
  | some e =>
    by_cases h : s ≤ e
    · rw [Option.map_some, Nat.max_eq_left h]
    · have h' : e ≤ s := Nat.le_of_not_le h
      rw [Option.map_some, Nat.max_eq_right h', sliceList, sliceList,
        List.drop_eq_nil_of_le (List.length_take_le ..),
        List.drop_eq_nil_of_le (Nat.le_trans (List.length_take_le ..) h')]

/-- One step of a loop that counts up to the window (the shape of `sliceEnum`). -/
theorem sliceList_cons (s : Nat) (e : Option Nat) (x : α) (xs : List α) :
    sliceList s e (x :: xs) =
      if e = some 0 then [] else
      if s = 0 then x :: sliceList 0 (e.map (· - 1)) xs else sliceList (s - 1) (e.map (· - 1)) xs := by
  rcases e with _ | _ | e <;> cases s <;> simp [sliceList]

/-- `Slice(start, stop)` does not raise on naturals with `start ≤ stop`. -/
theorem mkSlice_natCast (s : Nat) (e : Option Nat) (h : ∀ x, e = some x → s ≤ x) :
    UOp.mkSlice s (e.map Nat.cast) = .ok (.slice s e) := by
  have hs : ¬ (s : Int) < 0 := Int.not_lt.mpr (Int.natCast_nonneg s)
  cases e with
  | none => simp only [UOp.mkSlice, hs, if_false, Option.map_none, Int.toNat_natCast]
  | some x =>
    have hx : ¬ (x : Int) < s := Int.not_lt.mpr (Int.ofNat_le.mpr (h x rfl))
    simp only [UOp.mkSlice, hs, hx, if_false, Option.map_some, Int.toNat_natCast]

/-- Stop of `Slice.then` (its start is `s1 + s2`): the tighter of the two stops, in the coordinates
of the first slice's input, clamped to the start. -/
def sliceThenStop (s1 : Nat) (e1 : Option Nat) (s2 : Nat) (e2 : Option Nat) : Option Nat :=
  (match e1, e2 with
    | none, none => none
    | none, some b => some (b + s1)
    | some a, none => some a
    | some a, some b => some (min a (b + s1))).map (max · (s1 + s2))

/-- `Slice.then` never raises and always returns the closed form: its arguments to `Slice(..)` are
the casts of naturals, and the clamp keeps the stop at or above the start. -/
theorem sliceThen_eq (s1 : Nat) (e1 : Option Nat) (s2 : Nat) (e2 : Option Nat) :
    UOp.sliceThen s1 e1 s2 e2 = .ok (.slice (s1 + s2) (sliceThenStop s1 e1 s2 e2)) := by
  have clamp (e n : Nat) : (if (e : Int) < n then (n : Int) else e) = ((max e n : Nat) : Int) := by omega
  have hmin (a b : Nat) : min (a : Int) b = ((min a b : Nat) : Int) := by omega
  rw [← mkSlice_natCast]
  · cases e1 <;> cases e2 <;>
      simp only [UOp.sliceThen, sliceThenStop, Option.map_none, Option.map_some, ← Int.natCast_add, hmin, clamp]
  · simp only [sliceThenStop, Option.map_eq_some_iff]
    rintro x ⟨y, -, rfl⟩
    exact Nat.le_max_right ..

theorem sliceList_sliceList (s1 : Nat) (e1 : Option Nat) (s2 : Nat) (e2 : Option Nat) (l : List α) :
    sliceList s2 e2 (sliceList s1 e1 l) = sliceList (s1 + s2) (sliceThenStop s1 e1 s2 e2) l := by
  unfold sliceThenStop
  rw [sliceList_clamp]
  cases e1 <;> cases e2 <;>
    simp only [sliceList, List.drop_drop, List.take_drop, List.take_take, Nat.add_comm, Nat.min_comm]

theorem sliceThen_sound (s1 : Nat) (e1 : Option Nat) (s2 : Nat) (e2 : Option Nat) (s : Nat)
    (e : Option Nat) (h : UOp.sliceThen s1 e1 s2 e2 = .ok (.slice s e)) (l : List α) :
    sliceList s2 e2 (sliceList s1 e1 l) = sliceList s e l := by
  rw [sliceThen_eq] at h
  cases h
  exact sliceList_sliceList s1 e1 s2 e2 l

/-- From the counter `n` of `enumerate` on, the rest `l` of the target is sliced with both bounds shifted by `n`
(`hn`: the stop has not been passed). -/
theorem sliceEnum_eq (s : Nat) (e : Option Nat) (l : List α) (n : Nat)
    (hn : ∀ e', e = some e' → n ≤ e') :
    sliceEnum s e n l = sliceList (s - n) (e.map (· - n)) l := by
  induction l generalizing n with
  | nil => cases e <;> simp [sliceEnum, sliceList]
  | cons x xs ih =>
    rw [sliceEnum, sliceList_cons]
    by_cases he : e = some n
    · simp [he]
    · have hlt : ∀ e', e = some e' → n + 1 ≤ e' :=
        fun e' h => Nat.lt_of_le_of_ne (hn e' h) (fun h' => he (h' ▸ h))
      have h0 : e.map (· - n) ≠ some 0 := by
        cases e with
        | none => simp
        | some e' => have := hlt e' rfl; simp; omega
      rw [ih (n + 1) hlt, if_neg (by simpa using he), if_neg h0, Option.map_map]
      by_cases h : n ≥ s
      · rw [if_pos h, if_pos (Nat.sub_eq_zero_of_le h), Nat.sub_eq_zero_of_le (Nat.le_succ_of_le h)]
        rfl
      · rw [if_neg h, if_neg (mt Nat.sub_eq_zero_iff_le.mp h)]
        rfl

theorem sliceEnum_zero (s : Nat) (e : Option Nat) (l : List α) :
    sliceEnum s e 0 l = sliceList s e l := by
  rw [sliceEnum_eq _ _ _ _ (by intros; omega)]
  cases e <;> simp

end DafRel
