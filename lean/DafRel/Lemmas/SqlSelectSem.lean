/-
One query level: the SELECT compiled for a `Select` marker (select list, FROM, WHERE, DISTINCT, ORDER BY,
OFFSET/LIMIT) evaluates, in the SQL evaluation model (`Query.eval`), to
slice(dedup(proj(sort(rows of the skip target)))).  Underneath: ORDER BY keys versus the reference comparator
`lexLe`, DISTINCT versus first occurrences, OFFSET/LIMIT versus Python slices.
-/
import DafRel.Model.Sql
import DafRel.Lemmas.Dedup
import DafRel.Lemmas.Commute
import DafRel.Lemmas.SqlPayloadSem
import DafRel.Lemmas.SelectSound

namespace DafRel

def keysOf (ts : List SortTerm) (r : Row) : List (Int × Bool) := ts.map (fun t => (t.expr.val r, t.asc))

theorem keysLe_keysOf (ts : List SortTerm) (a b : Row) : keysLe (keysOf ts a) (keysOf ts b) = lexLe ts a b := by
  induction ts with
  | nil => rfl
  | cons t ts ih =>
    simp only [keysOf, List.map_cons, keysLe, lexLe]
    split
    · exact ih
    · rfl

theorem distinctPairs_map (cols : Cols) (f : Row → List (Int × Bool)) (rows : List Row)
    (seen : List (List (Option Int))) :
    distinctPairs cols (rows.map (fun r => (r, f r))) seen = (firstOccAux cols seen rows).map (fun r => (r, f r)) := by
  induction rows generalizing seen with
  | nil => rfl
  | cons r rs ih =>
    simp only [List.map_cons, distinctPairs, firstOccAux]
    split
    · exact ih seen
    · simp only [List.map_cons]
      rw [ih]

theorem finishLevel_rows (cols : Cols) (pairs : List (Row × List (Int × Bool))) (hasOrder : Bool)
    (offset : Nat) (limit : Option Nat) (detIn amb : Bool) :
    (finishLevel cols pairs hasOrder offset limit detIn amb).rows =
      (sliceList offset (limit.map (· + offset))
        (if hasOrder then isort (fun a b => keysLe a.2 b.2) pairs else pairs)).map (·.1) := rfl

/-- `OFFSET start LIMIT (stop - start)` = the Python slice `[start:stop]`. -/
theorem sliceList_limit {α : Type} (start : Nat) (stop : Option Nat) (l : List α) :
    sliceList start ((stop.map (· - start)).map (· + start)) l = sliceList start stop l := by
  cases stop with
  | none => rfl
  | some e => simp only [Option.map_some, sliceList, List.drop_take, Nat.add_sub_cancel]

/-- ORDER BY on the (row, keys) pairs sorts the rows by `lexLe` (the model skips an empty ORDER BY). -/
theorem orderIf_pairs (ts : List SortTerm) (g : Row → Row) (rows : List Row) :
    (if (!ts.isEmpty) = true then
        isort (fun (a b : Row × List (Int × Bool)) => keysLe a.2 b.2) (rows.map (fun r => (g r, keysOf ts r)))
      else rows.map (fun r => (g r, keysOf ts r))).map (·.1) = (isort (lexLe ts) rows).map g := by
  have fst : ∀ X : List Row, (X.map (fun r => (g r, keysOf ts r))).map (·.1) = X.map g := fun X => by
    rw [List.map_map]; rfl
  cases ts with
  | nil => rw [isort_lexLe_nil]; exact fst rows
  | cons t ts =>
    refine .trans (congrArg _ ?_) (fst _)
    exact isort_map _ _ _ _ fun a b _ _ => keysLe_keysOf (t :: ts) a b

/-- DISTINCT, ORDER BY and OFFSET/LIMIT on the pairs built from the rows `L` by a row function `g`: with DISTINCT,
`g` must keep the sort keys, so that sorting commutes with `g` and then with taking first occurrences. -/
theorem level_rows (cols : Cols) (ts : List SortTerm) (g : Row → Row) (L : List Row) (dd : Bool)
    (start : Nat) (stop : Option Nat) (det amb : Bool)
    (hg : dd = true → (∀ r, r ∈ L → keysOf ts (g r) = keysOf ts r) ∧ RowsHaveCols (L.map g) cols) :
    (finishLevel cols (if dd = true then distinctPairs cols (L.map (fun r => (g r, keysOf ts r))) []
        else L.map (fun r => (g r, keysOf ts r))) (!ts.isEmpty) start (stop.map (· - start)) det amb).rows =
      sliceList start stop (if dd = true then firstOcc cols ((isort (lexLe ts) L).map g)
        else (isort (lexLe ts) L).map g) := by
  rw [finishLevel_rows, sliceList_limit, ← sliceList_map]
  congr 1
  cases dd with
  | false => exact orderIf_pairs ts g L
  | true =>
    obtain ⟨hk, hc⟩ := hg rfl
    have hkeys : L.map (fun r => (g r, keysOf ts r)) = (L.map g).map (fun r => (r, keysOf ts r)) := by
      rw [List.map_map]
      exact List.map_congr_left fun r hr => congrArg (Prod.mk (g r)) (hk r hr).symm
    have hsort : isort (lexLe ts) (L.map g) = (isort (lexLe ts) L).map g :=
      isort_map g _ _ L fun a b ha hb => by rw [← keysLe_keysOf, hk a ha, hk b hb, keysLe_keysOf]
    simp only [if_true]
    rw [hkeys, distinctPairs_map, orderIf_pairs ts (fun r => r), List.map_id', ← hsort]
    exact (sort_dedup cols ts _ hc).symm

/-- One query level, from the pairs on.  `g` is what the select list does to a row of the skip target (restriction to
the exposed columns; the identity for a compound), `cols'` the exposed columns as the query lists them. -/
theorem level_sem (sl : Slots) (cols cols' : Cols) (g : Row → Row) (L : List Row) (det amb : Bool)
    (hL : RowsHaveCols L cols) (hsl : sl.wfOn cols) (hc : ∀ t, t ∈ cols' ↔ t ∈ sl.columns cols)
    (hg : ∀ r, RowHasCols r cols → g r = r.restrict (sl.columns cols))
    (hamb : sl.dedup = true → (UOp.sortCols sl.sort).subset (sl.columns cols) = true) :
    (finishLevel cols' (if sl.dedup = true then distinctPairs cols' (L.map (fun r => (g r, keysOf sl.sort r))) []
        else L.map (fun r => (g r, keysOf sl.sort r))) (!sl.sort.isEmpty) sl.sliceStart
        (sl.sliceStop.map (· - sl.sliceStart)) det amb).rows = sl.sem cols L := by
  have hgL : ∀ X, RowsHaveCols X cols → X.map g = match sl.proj with
      | some c => X.map (fun r => r.restrict c)
      | none => X := by
    intro X hX
    rw [List.map_congr_left fun r hr => hg r (hX r hr)]
    unfold Slots.columns
    cases sl.proj with
    | none => exact map_restrict_self X cols cols hX fun _ => Iff.rfl
    | some c => rfl
  rw [level_rows cols' sl.sort g L sl.dedup _ _ det amb fun hd => ⟨fun r hr => ?_, fun r hr => ?_⟩]
  · unfold Slots.sem
    rw [sliceList_if, isort_lexLe_if, firstOcc_congr cols' _ hc, hgL _ (rowsHaveCols_isort hL)]
    rfl
  · rw [hg r (hL r hr)]
    exact List.map_congr_left fun t ht =>
      congrArg (·, t.asc) (Expr.val_restrict t.expr r _ (sortCols_subset_term sl.sort _ (hamb hd) t ht))
  · obtain ⟨r0, h0, rfl⟩ := List.mem_map.mp hr
    rw [hg r0 (hL r0 h0)]
    exact ((hL r0 h0).restrict _ (Slots.columns_sub sl cols hsl)).congr fun t => (hc t).symm

/-- `lookupItems` followed by `dedupItems`; the lemmas below speak of those two. -/
def selectItems (avail : List (Tag × SqlExpr)) (tcols : Cols) : Option (List (Tag × SqlExpr)) :=
  (tcols.mapM (fun t => (SqlPayload.lookup avail t).map (fun e => (t, e)))).map
    (fun items => items.foldl (fun acc x => if (acc.find? (·.1 == x.1)).isSome then acc else acc ++ [x]) [])

theorem lookupItems_spec (avail : List (Tag × SqlExpr)) (tcols : Cols) (items : List (Tag × SqlExpr))
    (h : lookupItems avail tcols = some items) :
    items.map (·.1) = tcols ∧ ∀ x, x ∈ items → SqlPayload.lookup avail x.1 = some x.2 := by
  -- both lists are mapped to pairs `(tag, some expression)`, so that one `mapM_option_map` gives the tags and the lookups
  have E := mapM_option_map (fun x : Tag × SqlExpr => (x.1, some x.2)) (fun t => (t, SqlPayload.lookup avail t))
    tcols items h fun t _ x hx => by obtain ⟨e, he, rfl⟩ := Option.map_eq_some_iff.mp hx; rw [he]
  refine ⟨?_, fun x hx => ?_⟩
  · have := congrArg (List.map (·.1)) E
    rw [List.map_map, List.map_map] at this
    exact this.trans (List.map_id tcols)
  · obtain ⟨t, _, ht⟩ := List.mem_map.mp (E ▸ List.mem_map_of_mem hx)
    exact (Prod.mk.inj ht).1 ▸ (Prod.mk.inj ht).2

theorem itemRow_dedupItems (avail : List (Tag × SqlExpr)) (tcols : Cols) (items0 : List (Tag × SqlExpr))
    (h : lookupItems avail tcols = some items0) (env : PEnv) :
    itemRow (dedupItems items0) env = (rowOf avail env).restrict tcols := by
  obtain ⟨h1, h2⟩ := lookupItems_spec avail tcols items0 h
  funext t
  simp only [itemRow, find?_dedupItems, Row.restrict, rowOf]
  cases hf : items0.find? (·.1 == t) with
  | none =>
    have : t ∉ tcols := by rw [← h1, mem_keys_iff, hf]; simp
    simp [this]
  | some x =>
    have hxt : x.1 = t := by simpa using List.find?_some hf
    have ht : t ∈ tcols := by rw [← h1, mem_keys_iff, hf]; rfl
    have := h2 x (List.mem_of_find?_eq_some hf)
    rw [hxt] at this
    simp [ht, this]

theorem orderByOf_keys (avail : List (Tag × SqlExpr)) (env : PEnv) (r : Row) (hav : AvailOK avail env r)
    (ts : List SortTerm) (ob : List (SqlExpr × Bool)) (h : orderByOf avail ts = .ok ob)
    (har : ∀ t, t ∈ ts → t.expr.arityOk = true) (hall : r.hasAll (UOp.sortCols ts)) :
    orderKeys ob env = keysOf ts r := by
  refine mapM_except_map _ _ ts ob h (fun t ht px hpx => ?_)
  obtain ⟨x, hc, rfl⟩ := Except.map_eq_ok.mp hpx
  simp only [convExpr_eval_val hav hc (har t ht) fun c hc => hall c ((mem_sortCols ts c).mpr ⟨t, ht, hc⟩),
    Option.getD_some]

theorem orderByOf_isEmpty (avail : List (Tag × SqlExpr)) (ts : List SortTerm) (ob : List (SqlExpr × Bool))
    (h : orderByOf avail ts = .ok ob) : ob.isEmpty = ts.isEmpty := by
  have := congrArg List.isEmpty (mapM_except_map (fun _ => ()) (fun _ => ()) ts ob h (fun _ _ _ _ => rfl))
  simpa using this

theorem select_level_sem (tables : List (List Row)) (p : SqlPayload) (L : List Row) (skipcols : Cols) (sl : Slots)
    (tcols : Cols) (items0 : List (Tag × SqlExpr)) (ob : List (SqlExpr × Bool))
    (P : PaySem tables p L skipcols) (hL : RowsHaveCols L skipcols) (hsl : sl.wfOn skipcols)
    (htc : ∀ t, t ∈ tcols ↔ t ∈ sl.columns skipcols)
    (hitems : tcols.mapM (fun t => (SqlPayload.lookup p.avail t).map (fun e => (t, e))) = some items0)
    (hob : sl.sort.mapM (fun t => (convExpr p.avail t.expr).map (fun e => (e, t.asc))) = .ok ob)
    (har : ∀ t, t ∈ sl.sort → t.expr.arityOk = true)
    (hamb : sl.dedup = true → (UOp.sortCols sl.sort).subset (sl.columns skipcols) = true) :
    (Query.eval tables (.select
        (items0.foldl (fun acc x => if (acc.find? (·.1 == x.1)).isSome then acc else acc ++ [x]) [])
        p.frm p.wh sl.dedup ob sl.sliceStart (sl.sliceStop.map (· - sl.sliceStart)))).rows =
      sl.sem skipcols L := by
  obtain ⟨hi1, _⟩ := lookupItems_spec p.avail tcols items0 hitems
  -- the (row, keys) pairs, in terms of the rows of the skip target
  have hpairs : ((((From.envs tables p.frm).1).filter (fun e => SqlPred.evalAll e p.wh)).map (fun e =>
        (itemRow (dedupItems items0) e, orderKeys ob e))) =
      L.map (fun r => (r.restrict tcols, keysOf sl.sort r)) := by
    rw [P.rows_eq, List.map_map]
    apply List.map_congr_left
    intro e he
    have he' : e ∈ payEnvs tables p := he
    simp only [Function.comp]
    rw [itemRow_dedupItems p.avail tcols items0 hitems e,
      orderByOf_keys p.avail e _ (rowOf_availOK _ _) sl.sort ob hob har
        (P.hasAll hL he' hsl.1)]
  simp only [Query.eval]
  rw [hpairs, orderByOf_isEmpty p.avail sl.sort ob hob]
  refine level_sem sl skipcols _ _ L _ _ hL hsl (fun x => ?_) (fun r _ => Row.restrict_congr r _ _ htc) hamb
  rw [mem_keys_iff, find?_dedupItems, ← mem_keys_iff, hi1, htc]

theorem compound_level_sem (tables : List (List Row)) (ql qr : Query) (L : List Row) (skipcols : Cols) (sl : Slots)
    (ob : List (SqlExpr × Bool))
    (hrows : (Query.eval tables ql).rows ++ (Query.eval tables qr).rows = L)
    (hL : RowsHaveCols L skipcols) (hsl : sl.wfOn skipcols) (hpn : sl.proj = none)
    (hob : sl.sort.mapM (fun t => (convExpr (subAvail "" skipcols) t.expr).map (fun e => (e, t.asc))) = .ok ob)
    (har : ∀ t, t ∈ sl.sort → t.expr.arityOk = true) :
    (Query.eval tables (.compound (!sl.dedup) ql qr skipcols ob sl.sliceStart
        (sl.sliceStop.map (· - sl.sliceStart)))).rows = sl.sem skipcols L := by
  have hpairs : L.map (fun row => (row, orderKeys ob (rowEnv "" row))) =
      L.map (fun r => (r, keysOf sl.sort r)) :=
    List.map_congr_left fun r hr => congrArg (Prod.mk r)
      (orderByOf_keys (subAvail "" skipcols) (rowEnv "" r) r
        (availOK_of_lookup (SqlPayload.lookup_subAvail "" skipcols) r) sl.sort ob hob har
        (fun t ht => (hL r hr t).mpr (Cols.mem_of_subset hsl.1 ht)))
  have hcol : sl.columns skipcols = skipcols := by rw [Slots.columns, hpn]
  simp only [Query.eval, hrows, ite_not_eq_true]
  rw [hpairs, orderByOf_isEmpty _ sl.sort ob hob]
  exact level_sem sl skipcols skipcols (fun r => r) L _ _ hL hsl (fun t => by rw [hcol])
    (fun r hr => by rw [hcol]; exact (Row.restrict_self hr fun _ => Iff.rfl).symm)
    (fun _ => by rw [hcol]; exact hsl.1)

end DafRel
