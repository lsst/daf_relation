/-
What the compile proof needs of the two kinds of finite map it looks things up in.  Environments of the SQL evaluation
model: only locality matters (an environment of a FROM clause is undefined outside the clause's names, evaluation sees
only the sources an expression mentions).  `columns_available` and SELECT lists: association lists searched by `find?`
on the key; `subAvail` and the SELECT-list de-duplication of `compileSelect` are the same "append unless the key is
present" fold (`find?_foldl_addNew`).
-/
import DafRel.Model.Sql
import DafRel.Lemmas.Base

namespace DafRel

def PEnv.localTo (env : PEnv) (names : List String) : Prop := ∀ s, s ∉ names → ∀ t, env s t = none

theorem rowEnv_local (name : String) (r : Row) : (rowEnv name r).localTo [name] := by
  intro s hs t
  unfold rowEnv
  have : (s == name) = false := by simpa using hs
  simp [this]

theorem PEnv.merge_local {a b : PEnv} {A B : List String} (ha : a.localTo A) (hb : b.localTo B) :
    (a.merge b).localTo (A ++ B) := by
  intro s hs t
  have h1 : s ∉ A := fun h => hs (List.mem_append.mpr (Or.inl h))
  have h2 : s ∉ B := fun h => hs (List.mem_append.mpr (Or.inr h))
  simp [PEnv.merge, ha s h1 t, hb s h2 t]

theorem envs_local (tables : List (List Row)) (f : From) (env : PEnv) (h : env ∈ (From.envs tables f).1) :
    env.localTo (From.names f) := by
  cases f with
  | table name _ _ | subquery name _ =>
    simp only [From.envs, List.mem_map] at h
    obtain ⟨r, _, rfl⟩ := h
    exact rowEnv_local name r
  | join l r on =>
    simp only [From.envs, List.mem_flatMap, List.mem_map, List.mem_filter] at h
    obtain ⟨a, ha, b, ⟨hb, _⟩, rfl⟩ := h
    exact PEnv.merge_local (envs_local tables l a ha) (envs_local tables r b hb)

def PEnv.agreeOn (e1 e2 : PEnv) (srcs : List String) : Prop := ∀ s, s ∈ srcs → ∀ t, e1 s t = e2 s t

mutual
theorem SqlExpr.eval_congr (e1 e2 : PEnv) (x : SqlExpr) (h : e1.agreeOn e2 x.srcs) : x.eval e1 = x.eval e2 := by
  cases x with
  | lit _ => rfl
  | col s t => exact h s (List.mem_singleton.mpr rfl) t
  | fn f args => simp only [SqlExpr.eval, SqlExpr.evalList_congr e1 e2 args h]
theorem SqlExpr.evalList_congr (e1 e2 : PEnv) (xs : List SqlExpr) (h : e1.agreeOn e2 (SqlExpr.srcsList xs)) :
    SqlExpr.evalList e1 xs = SqlExpr.evalList e2 xs := by
  cases xs with
  | nil => rfl
  | cons x xs =>
    have h := List.forall_mem_append.mp h
    simp only [SqlExpr.evalList, SqlExpr.eval_congr e1 e2 x h.1, SqlExpr.evalList_congr e1 e2 xs h.2]
end

theorem SqlPred.eval_congr (e1 e2 : PEnv) : (p : SqlPred) → e1.agreeOn e2 p.srcs → p.eval e1 = p.eval e2 := by
  intro p h
  induction p using SqlPred.rec (motive_2 := fun ps => e1.agreeOn e2 (SqlPred.srcsList ps) →
    SqlPred.evalAll e1 ps = SqlPred.evalAll e2 ps ∧ SqlPred.evalAny e1 ps = SqlPred.evalAny e2 ps) with
  | lit _ => rfl
  | col s t => simp only [SqlPred.eval, h s (List.mem_singleton.mpr rfl) t]
  | fn f args => simp only [SqlPred.eval, SqlExpr.evalList_congr e1 e2 args h]
  | not p ih => simp only [SqlPred.eval, ih h]
  | and ps ih => exact (ih h).1
  | or ps ih => exact (ih h).2
  | eqLit x _ | between x _ _ | modEq x _ _ => simp only [SqlPred.eval, SqlExpr.eval_congr e1 e2 x h]
  | inList x xs =>
    have h := List.forall_mem_append.mp h
    simp only [SqlPred.eval, SqlExpr.eval_congr e1 e2 x h.1, SqlExpr.evalList_congr e1 e2 xs h.2]
  | nil => exact ⟨rfl, rfl⟩
  | cons p ps ihp ihps =>
    next h =>
    have h := List.forall_mem_append.mp h
    simp only [SqlPred.evalAll, SqlPred.evalAny, ihp h.1, (ihps h.2).1, (ihps h.2).2, and_self]

theorem SqlPred.evalAll_congr (e1 e2 : PEnv) : (ps : List SqlPred) → e1.agreeOn e2 (SqlPred.srcsList ps) →
    SqlPred.evalAll e1 ps = SqlPred.evalAll e2 ps :=
  fun ps => SqlPred.eval_congr e1 e2 (.and ps)

theorem SqlPred.evalAny_congr (e1 e2 : PEnv) : (ps : List SqlPred) → e1.agreeOn e2 (SqlPred.srcsList ps) →
    SqlPred.evalAny e1 ps = SqlPred.evalAny e2 ps :=
  fun ps => SqlPred.eval_congr e1 e2 (.or ps)

theorem merge_agree_left {a b : PEnv} {A B : List String} (_ha : a.localTo A) (hb : b.localTo B)
    (hd : ∀ s, s ∈ A → s ∉ B) : (a.merge b).agreeOn a A := by
  intro s hs t
  simp only [PEnv.merge]
  cases h : a s t with
  | some v => rfl
  | none => exact hb s (hd s hs) t

theorem merge_agree_right {a b : PEnv} {A B : List String} (ha : a.localTo A) (_hb : b.localTo B)
    (hd : ∀ s, s ∈ A → s ∉ B) : (a.merge b).agreeOn b B := by
  intro s hs t
  have : s ∉ A := fun h => hd s h hs
  simp [PEnv.merge, ha s this t]

section MapM
variable {α β γ : Type}

theorem mapM_option_map {f : α → Option β} (g : β → γ) (h : α → γ) (l : List α) (r : List β)
    (hm : l.mapM f = some r) (hfg : ∀ a, a ∈ l → ∀ b, f a = some b → g b = h a) : r.map g = l.map h := by
  induction l generalizing r with
  | nil => cases hm; rfl
  | cons a l ih =>
    simp only [List.mapM_cons, Option.bind_eq_bind, Option.bind_eq_some_iff, Option.pure_def,
      Option.some.injEq] at hm
    obtain ⟨b, hb, bs, hbs, rfl⟩ := hm
    rw [List.map_cons, List.map_cons, hfg a List.mem_cons_self b hb,
      ih bs hbs (fun a ha => hfg a (List.mem_cons_of_mem _ ha))]

theorem mapM_except_map {ε : Type} {f : α → Except ε β} (g : β → γ) (h : α → γ) (l : List α) (r : List β)
    (hm : l.mapM f = .ok r) (hfg : ∀ a, a ∈ l → ∀ b, f a = .ok b → g b = h a) : r.map g = l.map h := by
  induction l generalizing r with
  | nil => cases hm; rfl
  | cons a l ih =>
    rw [List.mapM_cons] at hm
    obtain ⟨b, hb, hm⟩ := Except.bind_eq_ok.mp hm
    obtain ⟨bs, hbs, hm⟩ := Except.bind_eq_ok.mp hm
    cases hm
    rw [List.map_cons, List.map_cons, hfg a List.mem_cons_self b hb,
      ih bs hbs (fun a ha => hfg a (List.mem_cons_of_mem _ ha))]

theorem mapM_option_total {f : α → Option β} (l : List α) (h : ∀ a, a ∈ l → (f a).isSome = true) :
    ∃ r, l.mapM f = some r := by
  induction l with
  | nil => exact ⟨[], rfl⟩
  | cons a l ih =>
    obtain ⟨bs, hbs⟩ := ih (fun x hx => h x (List.mem_cons_of_mem _ hx))
    obtain ⟨b, hb⟩ := Option.isSome_iff_exists.mp (h a List.mem_cons_self)
    exact ⟨b :: bs, by simp [List.mapM_cons, hb, hbs]⟩

theorem mapM_except_total {ε : Type} {f : α → Except ε β} (l : List α) (h : ∀ a, a ∈ l → ∃ b, f a = .ok b) :
    ∃ r, l.mapM f = .ok r := by
  induction l with
  | nil => exact ⟨[], rfl⟩
  | cons a l ih =>
    obtain ⟨bs, hbs⟩ := ih (fun x hx => h x (List.mem_cons_of_mem _ hx))
    obtain ⟨b, hb⟩ := h a List.mem_cons_self
    exact ⟨b :: bs, by rw [List.mapM_cons, hb, hbs]; rfl⟩
end MapM

section Assoc
variable {κ β : Type} [BEq κ]

theorem find?_key_map (g : κ × β → κ × β) (hg : ∀ x, (g x).1 = x.1) (l : List (κ × β)) (t : κ) :
    (l.map g).find? (·.1 == t) = (l.find? (·.1 == t)).map g := by
  rw [List.find?_map]
  congr 2
  funext x
  simp only [Function.comp, hg]

variable [LawfulBEq κ]

theorem mem_keys_iff (l : List (κ × β)) (k : κ) : k ∈ l.map (·.1) ↔ (l.find? (·.1 == k)).isSome = true := by
  simp [List.find?_isSome]

theorem find?_key_filter (q : κ → Bool) (l : List (κ × β)) (t : κ) :
    (l.filter (fun x => q x.1)).find? (·.1 == t) = if q t then l.find? (·.1 == t) else none := by
  rw [List.find?_filter]
  split
  · rename_i h
    congr 1; funext x
    by_cases hx : x.1 = t <;> simp [hx, h]
  · rename_i h
    exact List.find?_eq_none.mpr (fun x _ => by by_cases hx : x.1 = t <;> simp [hx, h])

theorem find?_addNew (acc : List (κ × β)) (x : κ × β) (t : κ) :
    (if (acc.find? (·.1 == x.1)).isSome then acc else acc ++ [x]).find? (·.1 == t) =
      (acc.find? (·.1 == t)).or ([x].find? (·.1 == t)) := by
  split
  · rename_i h
    by_cases hx : x.1 = t
    · subst hx
      obtain ⟨v, hv⟩ := Option.isSome_iff_exists.mp h
      rw [hv, Option.some_or]
    · simp [hx]
  · exact List.find?_append

/-- The fold searches like the list it was fed: later duplicates of a key are never seen anyway. -/
theorem find?_foldl_addNew (items acc : List (κ × β)) (t : κ) :
    (items.foldl (fun acc x => if (acc.find? (·.1 == x.1)).isSome then acc else acc ++ [x]) acc).find? (·.1 == t) =
      (acc.find? (·.1 == t)).or (items.find? (·.1 == t)) := by
  induction items generalizing acc with
  | nil => simp
  | cons x xs ih =>
    rw [List.foldl_cons, ih, find?_addNew, Option.or_assoc, ← List.find?_append, List.singleton_append]

end Assoc

/-- `lookupItems`, `orderByOf` and `dedupItems` are the three pieces of a query level as `_select_to_executable` computes
them; as abbreviations they unfold to the text of `compileSelect`.  This one: the target's columns looked up in
`columns_available` (`KeyError` = `none`). -/
abbrev lookupItems (avail : List (Tag × SqlExpr)) (tcols : Cols) : Option (List (Tag × SqlExpr)) :=
  tcols.mapM fun t => (SqlPayload.lookup avail t).map fun e => (t, e)

abbrev orderByOf (avail : List (Tag × SqlExpr)) (ts : List SortTerm) : Except Err (List (SqlExpr × Bool)) :=
  ts.mapM fun t => (convExpr avail t.expr).map fun e => (e, t.asc)

abbrev dedupItems (items : List (Tag × SqlExpr)) : List (Tag × SqlExpr) :=
  items.foldl (fun acc x => if (acc.find? (·.1 == x.1)).isSome then acc else acc ++ [x]) []

theorem find?_dedupItems (items : List (Tag × SqlExpr)) (t : Tag) :
    (dedupItems items).find? (·.1 == t) = items.find? (·.1 == t) := by
  rw [dedupItems, find?_foldl_addNew, List.find?_nil, Option.none_or]

namespace SqlPayload

theorem lookup_append (a b : List (Tag × SqlExpr)) (t : Tag) :
    lookup (a ++ b) t = (lookup a t).or (lookup b t) := by
  simp only [lookup, List.find?_append, Option.map_or]

theorem lookup_cons (k : Tag) (e : SqlExpr) (a : List (Tag × SqlExpr)) (t : Tag) :
    lookup ((k, e) :: a) t = if k = t then some e else lookup a t := by
  by_cases h : k = t <;> simp [lookup, h]

/-- What `tablePayload` and (up to duplicates) `subAvail` build. -/
theorem lookup_map_mk (f : Tag → SqlExpr) (cols : Cols) (t : Tag) :
    lookup (cols.map (fun c => (c, f c))) t = if t ∈ cols then some (f t) else none := by
  induction cols with
  | nil => rfl
  | cons c cs ih =>
    rw [List.map_cons, lookup_cons, ih]
    by_cases h : c = t
    · simp [h]
    · simp [h, Ne.symm h]

theorem lookup_subAvail (alias : String) (cols : Cols) (t : Tag) :
    lookup (subAvail alias cols) t = if t ∈ cols then some (SqlExpr.col alias t) else none := by
  have h : subAvail alias cols = dedupItems (cols.map (fun c => (c, SqlExpr.col alias c))) := by
    rw [dedupItems, List.foldl_map]; rfl
  rw [h, lookup, find?_dedupItems]
  exact lookup_map_mk _ cols t

theorem lookup_availMerge (a b : List (Tag × SqlExpr)) (t : Tag) :
    lookup (availMerge a b) t = (lookup b t).or (lookup a t) := by
  rw [availMerge, lookup_append, lookup,
    find?_key_filter (fun k => (b.find? (·.1 == k)).isNone)]
  cases h : b.find? (·.1 == t) <;> simp [lookup, h]

theorem lookup_availSet (a : List (Tag × SqlExpr)) (tag t : Tag) (e : SqlExpr) :
    lookup (availSet a tag e) t = if t = tag then some e else lookup a t := by
  unfold availSet
  split
  · rename_i h
    rw [lookup, find?_key_map _ (fun x => by
      split
      · rename_i hx; exact (eq_of_beq hx).symm
      · rfl)]
    cases hv : a.find? (·.1 == t) with
    | none =>
      have ht : t ≠ tag := fun ht => by rw [← ht, hv] at h; cases h
      simp [lookup, hv, ht]
    | some v =>
      have hvt : v.1 = t := by simpa using List.find?_some hv
      by_cases ht : t = tag <;> simp [lookup, hv, hvt, ht]
  · rename_i h
    rw [lookup_append, lookup_cons]
    by_cases ht : t = tag
    · subst ht
      simp [lookup, Option.not_isSome_iff_eq_none.mp h]
    · simp [ht, Ne.symm ht, lookup]

end SqlPayload

end DafRel
