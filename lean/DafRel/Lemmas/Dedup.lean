/-
First occurrences (`firstOccBy f seen`; the reference semantics' `firstOcc` is `f := (·.proj cols)`, `seen := []`):
Python's dict-based deduplication (`to_mapping`) computes them on key-determined data (C01), and they commute with
map, filter and the stable sort when the other operation respects the observation classes (C04).  `seen` is
arbitrary in the statements because the inductions need it.
-/
import DafRel.Lemmas.WF
import DafRel.Model.IterExec
import DafRel.Lemmas.Sort

namespace DafRel

theorem firstOccBy_congr_seen {β : Type} [DecidableEq β] (f : Row → β) (s1 s2 : List β) (l : List Row)
    (h : ∀ x, x ∈ s1 ↔ x ∈ s2) : firstOccBy f s1 l = firstOccBy f s2 l := by
  induction l generalizing s1 s2 with
  | nil => rfl
  | cons r rs ih =>
    simp only [firstOccBy, h (f r)]
    rw [ih s1 s2 h, ih (f r :: s1) (f r :: s2) fun x => by simp only [List.mem_cons, h x]]

/-- First occurrences commute with a map that neither merges nor splits observation classes
(on `L`, any list that holds the rows behind `seen` and the rows to come). -/
theorem firstOccBy_map_on {γ δ : Type} [DecidableEq γ] [DecidableEq δ] (f : Row → γ) (f' : Row → δ)
    (g : Row → Row) (L S l : List Row) (hS : ∀ a, a ∈ S → a ∈ L) (hl : ∀ a, a ∈ l → a ∈ L)
    (h : ∀ a b, a ∈ L → b ∈ L → (f (g a) = f (g b) ↔ f' a = f' b)) :
    firstOccBy f (S.map (fun a => f (g a))) (l.map g) = (firstOccBy f' (S.map f') l).map g := by
  induction l generalizing S with
  | nil => rfl
  | cons r rs ih =>
    have hr : r ∈ L := hl r (by simp)
    have hrs := fun a ha => hl a (List.mem_cons_of_mem _ ha)
    have hiff : f (g r) ∈ S.map (fun a => f (g a)) ↔ f' r ∈ S.map f' := by
      simp only [List.mem_map]
      exact exists_congr fun a => and_congr_right fun ha => h a r (hS a ha) hr
    simp only [List.map_cons, firstOccBy, hiff]
    split
    · exact ih S hS hrs
    · rw [List.map_cons]
      congr 1
      exact ih (r :: S) (fun a ha => (List.mem_cons.mp ha).elim (· ▸ hr) (hS a)) hrs

theorem firstOccBy_congr_obs {β γ : Type} [DecidableEq β] [DecidableEq γ] (f : Row → β) (g : Row → γ)
    (l : List Row) (h : ∀ a b, a ∈ l → b ∈ l → (f a = f b ↔ g a = g b)) :
    firstOccBy f [] l = firstOccBy g [] l := by
  simpa using firstOccBy_map_on f g id l [] l (by simp) (fun _ => id) h

theorem firstOccBy_of_pairwise {β : Type} [DecidableEq β] (f : Row → β) (seen : List β) (l : List Row)
    (hs : ∀ r, r ∈ l → f r ∉ seen) (hp : l.Pairwise (fun a b => f a ≠ f b)) :
    firstOccBy f seen l = l := by
  induction l generalizing seen with
  | nil => rfl
  | cons r rs ih =>
    obtain ⟨hr, hp⟩ := List.pairwise_cons.mp hp
    rw [firstOccBy, if_neg (hs r List.mem_cons_self), ih _ (fun x hx hm => ?_) hp]
    rcases List.mem_cons.mp hm with h | h
    · exact hr x hx h.symm
    · exact hs x (List.mem_cons_of_mem _ hx) h

theorem Row.agree_iff_proj (a b : Row) (c : Cols) : a.agree b c = true ↔ a.proj c = b.proj c := by
  simp only [Row.agree, Row.proj, List.all_eq_true, beq_iff_eq, List.map_inj_left]

theorem Row.ext_of_cols {a b : Row} {cols : Cols} (ha : RowHasCols a cols) (hb : RowHasCols b cols)
    (h : a.proj cols = b.proj cols) : a = b := by
  funext t
  by_cases ht : t ∈ cols
  · exact List.map_inj_left.mp h t ht
  · rw [ha.none_of_not_mem t ht, hb.none_of_not_mem t ht]

theorem proj_eq_of_keyDetermined {cols : Cols} {rows : List Row} (hkd : rowsKeyDetermined cols rows = true)
    {a b : Row} (ha : a ∈ rows) (hb : b ∈ rows) (h : a.proj cols.keys = b.proj cols.keys) :
    a.proj cols = b.proj cols := by
  simp only [rowsKeyDetermined, List.all_eq_true, Bool.or_eq_true, Bool.not_eq_true'] at hkd
  rcases hkd a ha b hb with h1 | h1
  · rw [(Row.agree_iff_proj a b _).mpr h] at h1; cases h1
  · exact (Row.agree_iff_proj a b cols).mp h1

/-- A `RowMapping` whose key is (as a set) the key columns of `cols` is already deduplicated. -/
theorem firstOcc_of_mapping (cols k : Cols) (rows : List Row)
    (hk : k.seteq cols.keys = true) (hp : rows.Pairwise (fun a b => a.proj k ≠ b.proj k)) :
    firstOcc cols rows = rows := by
  rw [firstOcc_eq_by]
  refine firstOccBy_of_pairwise _ [] rows (fun _ _ => List.not_mem_nil) (hp.imp fun {a b} hab he => hab ?_)
  -- agreeing on `cols` they agree on its key columns, which are the columns of `k`
  exact List.map_inj_left.mpr fun t ht =>
    List.map_inj_left.mp he t (List.mem_filter.mp (((Cols.seteq_iff k cols.keys).mp hk t).mp ht)).1

theorem firstOcc_of_sublist_firstOcc (cols : Cols) (l x : List Row) (h : x.Sublist (firstOcc cols l)) :
    firstOcc cols x = x := by
  have hp := (firstOccBy_spec (fun r : Row => r.proj cols) [] l).1
  rw [firstOcc_eq_by] at h ⊢
  exact firstOccBy_of_pairwise _ _ _ (fun _ _ => by simp) (hp.sublist h)

theorem firstOcc_pairwise_keys (cols : Cols) (rows : List Row) (hkd : rowsKeyDetermined cols rows = true) :
    (firstOcc cols rows).Pairwise (fun a b => a.proj cols.keys ≠ b.proj cols.keys) := by
  rw [firstOcc_eq_by]
  have h := firstOccBy_spec (fun r : Row => r.proj cols) [] rows
  exact h.1.imp_of_mem fun ha hb hne he => hne (proj_eq_of_keyDetermined hkd (h.2 _ ha).2 (h.2 _ hb).2 he)

abbrev Dict := List (List (Option Int) × Row)

theorem dictInsert_absent (k : List (Option Int)) (r : Row) (d : Dict) (h : k ∉ d.map (·.1)) :
    dictInsert k r d = d ++ [(k, r)] := by
  induction d with
  | nil => rfl
  | cons e es ih =>
    obtain ⟨hne, h⟩ := not_or.mp (mt List.mem_cons.mpr h)
    rw [dictInsert, if_neg (Ne.symm hne), ih h, List.cons_append]

theorem dictInsert_present (k : List (Option Int)) (r : Row) (d : Dict) (h : k ∈ d.map (·.1))
    (hv : ∀ e, e ∈ d → e.1 = k → e.2 = r) : dictInsert k r d = d := by
  induction d with
  | nil => cases h
  | cons e es ih =>
    rw [dictInsert]
    split
    · next hk => rw [← hv e List.mem_cons_self hk]
    · next hk =>
      rw [ih ((List.mem_cons.mp h).resolve_left (hk ·.symm)) fun e he => hv e (List.mem_cons_of_mem _ he)]

/-- `L` is any list that holds the rows in the dictionary and those to come. -/
theorem foldl_dictInsert (key : Cols) (L rows : List Row) (d : Dict)
    (hd : ∀ e, e ∈ d → e.2 ∈ L ∧ e.1 = e.2.proj key) (hrows : ∀ a, a ∈ rows → a ∈ L)
    (hkd : ∀ a b, a ∈ L → b ∈ L → a.proj key = b.proj key → a = b) :
    (rows.foldl (fun d r => dictInsert (r.proj key) r d) d).map (·.2)
      = d.map (·.2) ++ firstOccBy (fun r => r.proj key) (d.map (·.1)) rows := by
  induction rows generalizing d with
  | nil => simp [firstOccBy]
  | cons r rs ih =>
    have hr : r ∈ L := hrows r (by simp)
    have hrs := fun a ha => hrows a (List.mem_cons_of_mem _ ha)
    simp only [List.foldl_cons, firstOccBy]
    split
    · next hm =>
      rw [dictInsert_present _ _ _ hm fun e he hek =>
        hkd e.2 r (hd e he).1 hr (by rw [← (hd e he).2, hek])]
      exact ih d hd hrs
    · next hm =>
      rw [dictInsert_absent _ _ _ hm, ih _ (fun e he => ?_) hrs]
      · simp only [List.map_append, List.map_cons, List.map_nil, List.append_assoc, List.singleton_append]
        congr 2
        exact firstOccBy_congr_seen _ _ _ rs fun x => by simp [or_comm]
      · rcases List.mem_append.mp he with he | he
        · exact hd e he
        · rw [List.mem_singleton.mp he]; exact ⟨hr, rfl⟩

/-- On key-determined data rows with equal keys are equal, so overwriting a value changes nothing, and key and
row identify the same pairs. -/
theorem dictDedup_eq_firstOcc (cols : Cols) (rows : List Row) (hc : RowsHaveCols rows cols)
    (hkd : rowsKeyDetermined cols rows = true) :
    dictDedup cols.keys rows = .ok (firstOcc cols rows) := by
  have hpresent : rows.all (fun r => cols.keys.all (fun t => (r t).isSome)) = true := by
    simp only [List.all_eq_true]
    exact fun r hr t ht => (hc r hr t).mpr (List.mem_filter.mp ht).1
  have hkd' : ∀ a b, a ∈ rows → b ∈ rows → a.proj cols.keys = b.proj cols.keys → a = b :=
    fun a b ha hb hp => Row.ext_of_cols (hc a ha) (hc b hb) (proj_eq_of_keyDetermined hkd ha hb hp)
  rw [dictDedup, if_pos hpresent, firstOcc_eq_by,
    foldl_dictInsert cols.keys rows rows [] nofun (fun _ => id) hkd']
  exact congrArg Except.ok <| firstOccBy_congr_obs _ _ rows fun a b ha hb =>
    ⟨fun h => by rw [hkd' a b ha hb h], fun h => by rw [Row.ext_of_cols (hc a ha) (hc b hb) h]⟩

/-- First occurrences commute with a filter that cannot tell rows of one class apart.  The unfiltered side
also sees the classes of the first occurrences that the filter drops, so its `seen'` may be larger; all that
matters is that the two agree on the rows to come that pass the filter. -/
theorem firstOccBy_filter_gen {γ : Type} [DecidableEq γ] (f : Row → γ) (p : Row → Bool)
    (l : List Row) (h : ∀ a b, a ∈ l → b ∈ l → f a = f b → p a = p b) (seen seen' : List γ)
    (hs : ∀ a, a ∈ l → p a = true → (f a ∈ seen' ↔ f a ∈ seen)) :
    firstOccBy f seen (l.filter p) = (firstOccBy f seen' l).filter p := by
  induction l generalizing seen seen' with
  | nil => rfl
  | cons r rs ih =>
    have ih' := ih fun a b ha hb => h a b (List.mem_cons_of_mem _ ha) (List.mem_cons_of_mem _ hb)
    have hs' := fun a ha => hs a (List.mem_cons_of_mem _ ha)
    rw [List.filter_cons, firstOccBy]
    cases hp : p r with
    | true =>
      simp only [↓reduceIte, firstOccBy, hs r List.mem_cons_self hp]
      split
      · exact ih' _ _ hs'
      · rw [List.filter_cons, if_pos hp, ih' (f r :: seen) (f r :: seen') fun a ha hpa => by
          simp only [List.mem_cons, hs' a ha hpa]]
    | false =>
      rw [if_neg Bool.false_ne_true]
      split
      · exact ih' _ _ hs'
      · -- `r` is dropped by the filter, and so is every later row of its class
        rw [List.filter_cons, if_neg (by simp [hp])]
        refine ih' seen (f r :: seen') fun a ha hpa => ?_
        have hne : f a ≠ f r := fun e => by
          rw [h a r (List.mem_cons_of_mem _ ha) List.mem_cons_self e, hp] at hpa; cases hpa
        simp only [List.mem_cons, hne, false_or, hs' a ha hpa]

theorem firstOccBy_filter {γ : Type} [DecidableEq γ] (f : Row → γ) (p : Row → Bool) (seen : List γ)
    (l : List Row) (h : ∀ a b, a ∈ l → b ∈ l → f a = f b → p a = p b) :
    firstOccBy f seen (l.filter p) = (firstOccBy f seen l).filter p :=
  firstOccBy_filter_gen f p l h seen seen fun _ _ _ => Iff.rfl

/-- First occurrences of a sorted list with `x` inserted, for any `seen`: the stable insert puts `x`
in front of all its ties, and what it passes (`z` with `¬ le x z`) is not `x`, hence of another class. -/
theorem firstOccBy_insertSorted {γ : Type} [DecidableEq γ] (f : Row → γ) {le : Row → Row → Bool}
    (ht : Total le) (tr : Trans le) (x : Row) (seen : List γ) (S : List Row) (hs : Sorted le S)
    (hinj : ∀ a, a ∈ S → f a = f x → a = x) :
    firstOccBy f seen (insertSorted le x S) =
      if f x ∈ seen then firstOccBy f seen S else insertSorted le x (firstOccBy f (f x :: seen) S) := by
  induction S generalizing seen with
  | nil => simp [insertSorted, firstOccBy]
  | cons y ys ih =>
    obtain ⟨hy, hys⟩ := List.pairwise_cons.mp hs
    rw [insertSorted_cons]
    split
    · next hxy =>
      rw [insertSorted_of_le_all le x (firstOccBy f (f x :: seen) (y :: ys)) fun z hz => ?_]
      · rfl
      · rcases List.mem_cons.mp ((firstOccBy_sublist f _ _).subset hz) with rfl | hz
        · exact hxy
        · exact tr x y z hxy (hy z hz)
    · next hxy =>
      have hne : f y ≠ f x := fun h => by
        rw [hinj y (by simp) h] at hxy
        exact hxy (ht.refl x)
      have ih' := fun seen => ih seen hys fun a ha => hinj a (List.mem_cons_of_mem _ ha)
      have hsw : firstOccBy f (f x :: f y :: seen) ys = firstOccBy f (f y :: f x :: seen) ys :=
        firstOccBy_congr_seen f _ _ ys fun k => by simp only [List.mem_cons]; exact or_left_comm
      -- `y` stays in front of `x` on both sides; one step of `firstOccBy` and of `insertSorted` on each
      -- side, then the induction hypothesis, whether or not `f y`, `f x` have been seen
      by_cases hys' : f y ∈ seen <;> by_cases hxs : f x ∈ seen <;>
        simp [firstOccBy, ih', hys', hxs, hne, Ne.symm hne, insertSorted, hxy, hsw]

/-- First occurrences commute with the stable sort when rows of one observation class are literally equal
(the case for rows that have exactly the observed columns). -/
theorem firstOccBy_isort {γ : Type} [DecidableEq γ] (f : Row → γ) {le : Row → Row → Bool}
    (ht : Total le) (tr : Trans le) (seen : List γ) (l : List Row)
    (hinj : ∀ a b, a ∈ l → b ∈ l → f a = f b → a = b) :
    firstOccBy f seen (isort le l) = isort le (firstOccBy f seen l) := by
  induction l generalizing seen with
  | nil => rfl
  | cons x xs ih =>
    have ih' := fun seen => ih seen fun a b ha hb =>
      hinj a b (List.mem_cons_of_mem _ ha) (List.mem_cons_of_mem _ hb)
    rw [isort, firstOccBy_insertSorted f ht tr x seen _ (sorted_isort ht tr xs) fun a ha =>
      hinj a x (List.mem_cons_of_mem _ ((mem_isort le a xs).mp ha)) (by simp), firstOccBy]
    split <;> simp only [ih', isort]

theorem Row.agree_congr_cols (a b : Row) (c1 c2 : Cols) (h : ∀ x, x ∈ c1 ↔ x ∈ c2) :
    a.agree b c1 = a.agree b c2 := by
  rw [Bool.eq_iff_iff]
  simp only [Row.agree, List.all_eq_true]
  exact ⟨fun g t ht => g t ((h t).mpr ht), fun g t ht => g t ((h t).mp ht)⟩

theorem Cols.keys_congr (c1 c2 : Cols) (h : ∀ x, x ∈ c1 ↔ x ∈ c2) : ∀ x, x ∈ c1.keys ↔ x ∈ c2.keys := by
  intro x
  simp only [Cols.keys, List.mem_filter, h]

theorem rowsKeyDetermined_congr (c1 c2 : Cols) (h : ∀ x, x ∈ c1 ↔ x ∈ c2) (rows : List Row) :
    rowsKeyDetermined c1 rows = rowsKeyDetermined c2 rows := by
  simp only [rowsKeyDetermined, Row.agree_congr_cols _ _ c1.keys c2.keys (Cols.keys_congr c1 c2 h),
    Row.agree_congr_cols _ _ c1 c2 h]

theorem firstOcc_congr (c1 c2 : Cols) (h : ∀ x, x ∈ c1 ↔ x ∈ c2) (rows : List Row) :
    firstOcc c1 rows = firstOcc c2 rows := by
  rw [firstOcc_eq_by, firstOcc_eq_by]
  exact firstOccBy_congr_obs (fun r : Row => r.proj c1) (fun r : Row => r.proj c2) rows fun a b _ _ => by
    rw [← Row.agree_iff_proj, ← Row.agree_iff_proj, Row.agree_congr_cols a b c1 c2 h]

theorem UOp.sem_congr (op : UOp) (c1 c2 : Cols) (h : ∀ x, x ∈ c1 ↔ x ∈ c2) (rows : List Row) :
    op.sem c1 rows = op.sem c2 rows := by
  cases op <;> simp only [UOp.sem]
  exact firstOcc_congr c1 c2 h rows

end DafRel
