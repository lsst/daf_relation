/-
The factory protocol in the form the proofs use.  `UnaryOperation.apply` is `_begin_apply` (`UOp.beginApply_eq`)
followed by `applyAfterBegin`: its `do` block with the two join points as functions of the Python code's mutable
variables `done` and `result` (`applyTransfer`, `applyFinish`), for unary operations and partial joins alike; proofs go
through it by the rule `applyAfterBegin_holds`, or by `applyAfterBegin_same_engine` when `_begin_apply` names the
target's own engine.  `backtrack_unary` is taken one step at a time (`backtrack_step`, `backtrackFinish`).
-/
import DafRel.Model.Apply
import DafRel.Lemmas.Base
import DafRel.Lemmas.FinishApply

namespace DafRel

theorem UOp.beginApply_eq (op : UOp) (t : Rel) (pref : Option Engine) :
    op.beginApply t pref =
      if op.noopOn t.columns && !op.isIdentity then .ok (.identity, t.engine)
      else if op.wfOn t.columns then .ok (op, pref.getD t.engine) else .error .column := by
  -- per constructor both sides unfold to the same tests (`nil_sub`: for the operations that require no column);
  -- only a calculation makes two tests, hence the split of its own
  have nil_sub : Cols.subset [] t.columns = true := rfl
  cases op <;>
    simp only [UOp.beginApply, UOp.noopOn, UOp.isIdentity, UOp.wfOn, UOp.columnsRequired, sortCols_subset_eq,
      nil_sub, ite_not_eq_true, Bool.not_true, Bool.not_false, Bool.and_true, Bool.and_false,
      Bool.false_eq_true, if_true, if_false]
  case «calc» tag e =>
    by_cases h1 : e.columnsRequired.subset t.columns = true <;> by_cases h2 : tag ∈ t.columns <;> simp [h1, h2]

theorem UOp.beginApply_inv (op : UOp) (t : Rel) (pref : Option Engine) (op' : UOp) (e : Engine)
    (h : op.beginApply t pref = .ok (op', e)) :
    ((op' = op ∧ op.wfOn t.columns = true) ∨ (op' = .identity ∧ op.noopOn t.columns = true)) ∧
      (e = t.engine ∨ pref = some e) := by
  rw [UOp.beginApply_eq] at h
  split at h
  · next hn =>
    cases h
    exact ⟨.inr ⟨rfl, (Bool.and_eq_true_iff.mp hn).1⟩, .inl rfl⟩
  · split at h
    · next hw =>
      cases h
      exact ⟨.inl ⟨rfl, hw⟩, by cases pref <;> simp⟩
    · cases h

theorem UOp.beginApply_total (op : UOp) (t : Rel) (pref : Option Engine) (h : op.wfOn t.columns = true) :
    ∃ v, op.beginApply t pref = .ok v := by
  rw [UOp.beginApply_eq, h]
  split <;> exact ⟨_, rfl⟩

theorem UOp.not_identity_of_not_noop {o : UOp} {c : Cols} (h : o.noopOn c = false) : o.isIdentity = false := by
  cases o with
  | identity => cases h
  | _ => rfl

/-- The last step of `apply`: the final `append_unary`, unless back-tracking is `done`. -/
def applyFinish (st : Store) (fuel : Nat) (op' : AnyOp) (t : Rel) (done : Bool) (result : Res) : Except Err Res :=
  if !done then
    appendUnary st fuel op' (result.get t) >>= fun
      | .same => pure result
      | .new x => pure (.new x)
  else pure result

/-- The step before: the transfer, or the refusal under `require_preferred_engine`. -/
def applyTransfer (st : Store) (fuel : Nat) (op' : AnyOp) (pref : Engine) (t : Rel) (opts : Opts) (done : Bool)
    (result : Res) : Except Err Res :=
  if !done then
    if opts.transfer then
      transferTo st fuel pref (result.get t) >>= fun
        | .same => applyFinish st fuel op' t done result
        | .new x => applyFinish st fuel op' t done (.new x)
    -- the model's `do` block after its `throw`, which never runs
    else if opts.require then throw Err.engine >>= fun (_ : Unit) => applyFinish st fuel op' t done result
    else applyFinish st fuel op' t done result
  else applyFinish st fuel op' t done result

/-- `UnaryOperation.apply` once `_begin_apply` has returned `(op', pref)`. -/
def applyAfterBegin (st : Store) (fuel : Nat) (op' : AnyOp) (pref : Engine) (t : Rel) (opts : Opts) : Except Err Res :=
  if pref != t.engine then
    if opts.backtrack then
      backtrack st fuel op' t pref >>= fun y => applyTransfer st fuel op' pref t opts y.2 y.1
    else applyTransfer st fuel op' pref t opts false .same
  else applyFinish st fuel op' t false .same

theorem applyOp_eq_begin (st : Store) (fuel : Nat) (op : AnyOp) (t : Rel) (opts : Opts) :
    applyOp st (fuel+1) op t opts =
      match op.beginApply t opts.pref with
      | .error e => .error e
      | .ok (op', pref) => applyAfterBegin st fuel op' pref t opts := by
  rw [applyOp]
  cases op.beginApply t opts.pref <;> rfl

theorem applyOp_fuel_zero (st : Store) (op : AnyOp) (t : Rel) (opts : Opts) :
    applyOp st 0 op t opts = .error .fuel := by rw [applyOp]

/-- **The rule for `apply` after `_begin_apply`**, for unary operations and partial joins alike.  `S x`: the relation
`x` stands in for the target while the call is under way; `R x`: the call may return `x`.  The call returns what it
should, and raises only what `E` allows, as soon as that is true of its three engine-dependent steps - the final
`append_unary`, back-tracking, the transfer - and `E` allows the `EngineError` of `require_preferred_engine`. -/
theorem applyAfterBegin_holds {st : Store} {fuel : Nat} {op' : AnyOp} {pref : Engine} {t : Rel} {opts : Opts}
    {S R : Rel → Prop} {E : Err → Prop} (hS : S t) (hE : E .engine)
    (hfin : ∀ x, S x → (appendUnary st fuel op' x).Holds (fun r => R (r.get x)) E)
    (hbt : pref ≠ t.engine → opts.backtrack = true →
      (backtrack st fuel op' t pref).Holds (fun out => (out.2 = true → R (out.1.get t)) ∧
        (out.2 = false → S (out.1.get t) ∧ (out.1.get t).engine = t.engine)) E)
    (htf : ∀ x, pref ≠ t.engine → opts.transfer = true → S x → x.engine = t.engine →
      (transferTo st fuel pref x).Holds (fun r2 => S (r2.get x)) E) :
    (applyAfterBegin st fuel op' pref t opts).Holds (fun res => R (res.get t)) E := by
  have finish : ∀ result, S (result.get t) →
      (applyFinish st fuel op' t false result).Holds (fun res => R (res.get t)) E := by
    intro result hs
    refine (hfin _ hs).bind fun ra _ hr => ?_
    cases ra <;> exact hr
  have transfer : ∀ r d, pref ≠ t.engine → (d = true → R (r.get t)) →
      (d = false → S (r.get t) ∧ (r.get t).engine = t.engine) →
      (applyTransfer st fuel op' pref t opts d r).Holds (fun res => R (res.get t)) E := by
    intro r d he hR hS1
    cases d with
    | true => exact hR rfl
    | false =>
      obtain ⟨hs, hx⟩ := hS1 rfl
      unfold applyTransfer
      simp only [Bool.not_false, if_true]
      split
      · rename_i htrf
        refine (htf _ he htrf hs hx).bind fun r2 _ T => ?_
        cases r2 with
        | same => exact finish r T
        | new y => exact finish (.new y) T
      · split
        · exact hE
        · exact finish r hs
  unfold applyAfterBegin
  by_cases he : pref = t.engine
  · rw [if_neg (by simp [he])]
    exact finish .same hS
  · rw [if_pos (bne_iff_ne.mpr he)]
    split
    · rename_i hbk
      exact (hbt he hbk).bind fun out _ B => transfer out.1 out.2 he B.1 B.2
    · exact transfer .same false he nofun fun _ => ⟨hS, rfl⟩

theorem applyAfterBegin_same_engine (st : Store) (fuel : Nat) (op' : AnyOp) (t : Rel) (opts : Opts) :
    applyAfterBegin st fuel op' t.engine t opts = appendUnary st fuel op' t := by
  unfold applyAfterBegin applyFinish
  simp only [bne_self_eq_false, Bool.false_eq_true, if_false, Bool.not_false, if_true, Res.get]
  cases appendUnary st fuel op' t with
  | error e => rfl
  | ok r => cases r <;> rfl

theorem applyOp_pj_inv {st : Store} {fuel : Nat} {p : PJoin} {t : Rel} {opts : Opts} {res : Res}
    (h : applyOp st fuel (.pj p) t opts = .ok res) :
    ∃ k p' e, fuel = k + 1 ∧ p.beginApply t opts.pref = .ok (p', e) ∧
      applyAfterBegin st k (.pj p') e t opts = .ok res := by
  cases fuel with
  | zero => rw [applyOp_fuel_zero] at h; cases h
  | succ k =>
    rw [applyOp_eq_begin] at h
    cases hb : p.beginApply t opts.pref with
    | error e => simp only [AnyOp.beginApply, hb, Except.map] at h; cases h
    | ok v => exact ⟨k, v.1, v.2, rfl, rfl, by simpa only [AnyOp.beginApply, hb, Except.map] using h⟩

/-- With default options `_begin_apply` names the target's own engine (of either family), so neither back-tracking
nor a transfer is tried. -/
theorem applyOp_default (st : Store) (fuel : Nat) (o : UOp) (t : Rel) :
    applyOp st (fuel+1) (.u o) t {} = o.beginApply t none >>= fun x => appendUnary st fuel (.u x.1) t := by
  rw [applyOp_eq_begin]
  simp only [AnyOp.beginApply]
  cases hb : o.beginApply t none with
  | error e => rfl
  | ok v =>
    obtain ⟨o', e⟩ := v
    obtain rfl := (UOp.beginApply_inv o t none o' e hb).2.elim id nofun
    exact applyAfterBegin_same_engine st fuel (.u o') t {}

/-- The closed forms on an iteration-engine target are stated at `fuel+2`: one level of the recursion budget for
`apply` (for `Engine.transfer`), one for the `append_unary` (the `conform`) it calls.  `rw [defaultFuel_eq]` gives the
default budget that shape. -/
theorem defaultFuel_eq : defaultFuel = 99998 + 2 := rfl

theorem applyOp_iter_eq (st : Store) (fuel : Nat) (o : UOp) (t : Rel) (hk : t.engine.kind = .iter) :
    applyOp st (fuel+2) (.u o) t {} =
      if o.noopOn t.columns then .ok .same
      else if o.wfOn t.columns then o.finishApply t else .error .column := by
  have fin : ∀ o', appendUnary st (fuel+1) (.u o') t = o'.finishApply t := fun o' => by rw [appendUnary, hk]
  rw [applyOp_default, UOp.beginApply_eq]
  cases hn : o.noopOn t.columns
  · cases o.wfOn t.columns
    · rfl
    · exact fin o
  · cases hi : o.isIdentity
    · exact (fin .identity).trans (finishApply_identity t)
    · obtain rfl : o = .identity := by cases o <;> first | rfl | cases hi
      exact (fin .identity).trans (finishApply_identity t)

theorem applyOp_iter_inv (st : Store) (fuel : Nat) (o : UOp) (t : Rel) (res : Res) (hk : t.engine.kind = .iter)
    (h : applyOp st (fuel+2) (.u o) t {} = .ok res) :
    (o.noopOn t.columns = true ∧ res = .same) ∨
      (o.noopOn t.columns = false ∧ o.wfOn t.columns = true ∧ o.finishApply t = .ok res) := by
  rw [applyOp_iter_eq st fuel o t hk] at h
  split at h
  · next hn => cases h; exact .inl ⟨hn, rfl⟩
  · next hn =>
    split at h
    · next hw => exact .inr ⟨Bool.not_eq_true _ ▸ hn, hw, h⟩
    · cases h

/-- The `.ok` half of `applyOp_iter_holds` (`Backtrack.lean`) on a budget of at least 2, where it needs no `hop`: an
operation that is neither a no-op nor well-formed raises. -/
theorem applyOp_iter_sound (σ : Leaves) (st : Store) (fuel : Nat) (o : UOp) (t : Rel) (res : Res)
    (hk : t.engine.kind = .iter) (hwf : t.WF) (htr : t.Truthful σ)
    (h : applyOp st (fuel+2) (.u o) t {} = .ok res) : FinishOK σ o t (res.get t) := by
  rcases applyOp_iter_inv st fuel o t res hk h with ⟨hn, rfl⟩ | ⟨-, hw, hf⟩
  · exact noop_sound σ o t hwf htr hn
  · exact finishApply_sound σ t o hwf htr hw res hf

theorem chainBeginApply_inv {l r : Rel} {op : BOp} (h : chainBeginApply l r = .ok op) :
    op = .chain ∧ l.engine = r.engine ∧ ∀ t, t ∈ l.columns ↔ t ∈ r.columns := by
  unfold chainBeginApply at h
  obtain ⟨he, h⟩ := Except.ite_error_eq_ok.mp h
  obtain ⟨hc, h⟩ := Except.ite_error_eq_ok.mp h
  cases h
  exact ⟨rfl, by simpa using he, (Cols.seteq_iff _ _).mp (by simpa using hc)⟩

theorem binaryApply_chain_iter (st : Store) (fuel : Nat) (l r : Rel) (hk : l.engine.kind = .iter) :
    binaryApply st (fuel+1) .chain l r =
      if l.engine != r.engine then .error .engine
      else if l.columns.seteq r.columns then .ok (.new (.binary .chain l r l.columns))
      else .error .column := by
  rw [binaryApply]
  simp only [chainBeginApply, hk]
  cases l.engine != r.engine
  · cases l.columns.seteq r.columns <;> rfl
  · rfl

theorem binaryApply_chain_iter_inv {st : Store} {l r : Rel} {b : BRes} (hk : l.engine.kind = .iter)
    (h : binaryApply st defaultFuel .chain l r = .ok b) :
    l.engine = r.engine ∧ (∀ u, u ∈ l.columns ↔ u ∈ r.columns) ∧ b.get l r = .binary .chain l r l.columns := by
  rw [defaultFuel_eq, binaryApply_chain_iter st _ l r hk] at h
  obtain ⟨he, h⟩ := Except.ite_error_eq_ok.mp h
  split at h
  · rename_i hc
    cases h
    exact ⟨by simpa using he, (Cols.seteq_iff _ _).mp hc, rfl⟩
  · cases h

/-- `Materialization.simplify` adds nothing over a locked relation; a new node gets the provisional id 0. -/
theorem materialize_iter (st : Store) (fuel : Nat) (t : Rel) (name : String) (hk : t.engine.kind = .iter) :
    materialize st (fuel+1) t name = .ok (if matSimplify t then .same else .new (.mat 0 name t)) := by
  rw [materialize]
  simp only [hk]
  cases matSimplify t <;> rfl

theorem transferSimplify_some (σ : Leaves) (dest : Engine) (a b : Rel) (h : transferSimplify dest a = some b) :
    sem σ b = sem σ a ∧ b.columns = a.columns ∧ (a.WF → b.WF) ∧ (a.Truthful σ → b.Truthful σ) ∧ b.engine = dest := by
  fun_induction transferSimplify dest a with
  | case1 _ _ t he => cases h; exact ⟨rfl, rfl, id, id, (beq_iff_eq.mp he).symm⟩
  | case2 _ _ t _ ih => exact ih h
  | case3 _ _ _ _ _ _ _ _ t ih => exact ih h
  | case4 => cases h

theorem transferSimplify_engine (dest : Engine) (t u : Rel) (h : transferSimplify dest t = some u) :
    u.engine = dest :=
  (transferSimplify_some (fun _ => []) dest t u h).2.2.2.2

theorem transferTo_eq_of_some (st : Store) (fuel : Nat) (dest : Engine) (t u : Rel)
    (hs : transferSimplify dest t = some u) :
    transferTo st (fuel+1) dest t =
      (match dest.kind with
      | .iter => pure (.new u)
      | .sql => do
        match ← conform st fuel u with
        | .same => pure (.new u)
        | .new c => pure (.new c)) := by
  rw [transferTo]
  simp only [hs, transferSimplify_engine dest t u hs, beq_self_eq_true, if_true]
  rfl

/-- The base-class transfer, then the destination's `conform`. -/
theorem transferTo_eq_of_none (st : Store) (fuel : Nat) (dest : Engine) (t : Rel)
    (hs : transferSimplify dest t = none) :
    transferTo st (fuel+1) dest t = (do
      let base ← (if t.engine == dest then pure Res.same else do
        let ct ← conformIn st fuel t.engine.kind t
        pure (Res.new (.transfer 0 dest (ct.get t))))
      match dest.kind with
      | .iter => pure base
      | .sql => do
        match ← conform st fuel (base.get t) with
        | .same => pure base
        | .new c => pure (.new c)) := by
  rw [transferTo]
  simp only [hs]
  rfl

/-- Between iteration engines `Engine.transfer` has nothing to conform. -/
theorem transferTo_iter (st : Store) (fuel : Nat) (dest : Engine) (t : Rel) (hd : dest.kind = .iter)
    (hk : t.engine.kind = .iter) (hs : transferSimplify dest t = none) :
    transferTo st (fuel+2) dest t = .ok (if t.engine == dest then .same else .new (.transfer 0 dest t)) := by
  rw [transferTo_eq_of_none st _ dest t hs, hd, hk]
  cases t.engine == dest <;> rfl

theorem transferTo_iter_holds (σ : Leaves) (st : Store) (fuel : Nat) (dest : Engine) (t : Rel)
    (hd : dest.kind = .iter) (hk : t.engine.kind = .iter) :
    (transferTo st fuel dest t).Holds
      (fun res => sem σ (res.get t) = sem σ t ∧ (res.get t).engine = dest ∧ (res.get t).columns = t.columns ∧
        (t.WF → (res.get t).WF) ∧ (t.Truthful σ → (res.get t).Truthful σ))
      (· = .fuel) := by
  cases fuel with
  | zero => rw [transferTo]; rfl
  | succ k =>
    cases hs : transferSimplify dest t with
    | some u =>
      rw [transferTo_eq_of_some st k dest t u hs, hd]
      obtain ⟨h1, h2, h3, h4, h5⟩ := transferSimplify_some σ dest t u hs
      exact ⟨h1, h5, h2, h3, h4⟩
    | none =>
      rw [transferTo_eq_of_none st k dest t hs, hd, hk]
      cases he : t.engine == dest
      · -- a new Transfer over the conformed source: `conform` is the identity here, but not on an empty budget
        cases k
        · rfl
        · exact ⟨rfl, rfl, rfl, id, id⟩
      · exact ⟨rfl, beq_iff_eq.mp he, rfl, id, id⟩

/-- What `backtrack_unary` does at a unary node once the inner call has returned `(up, done)`; `cdone` is the `done`
flag of the commutation report. -/
def backtrackFinish (cur : UOp) (ccols : Cols) (target : Rel) (second : UOp) (cdone : Bool) (up : Res) (done : Bool) :
    Except Err (Res × Bool) := do
  match up with
  | .same =>
    if !done || second == cur then return (.same, done && cdone)
    else
      let res ← second.finishApply target
      return (.new (res.get target), done && cdone)
  | .new u =>
    let repl := if !done && !(second.columnsRequired.subset u.columns) then cur else second
    let res ← repl.finishApply u
    let r := res.get u
    if !done && !(r.columns.subset ccols) then
      let res2 ← (UOp.proj (r.columns.inter ccols)).finishApply r
      return (.new (res2.get r), done && cdone)
    return (.new r, done && cdone)

theorem backtrackFinish_done_holds {cur second : UOp} {ccols : Cols} {target : Rel} {cdone : Bool} {up : Res}
    {P : Res × Bool → Prop} {E : Err → Prop}
    (hfin : (second.finishApply (up.get target)).Holds (fun r => P (.new (r.get (up.get target)), cdone)) E)
    (hsame : up = .same → (second == cur) = true → P (.same, cdone)) :
    (backtrackFinish cur ccols target second cdone up true).Holds P E := by
  unfold backtrackFinish
  cases up with
  | new u => exact hfin.bind fun _ _ h => h
  | same =>
    by_cases hbeq : (second == cur) = true
    · simp only [hbeq, Bool.or_true, if_true]
      exact hsame rfl hbeq
    · simp only [hbeq, Bool.not_true, Bool.or_false, Bool.false_eq_true, if_false]
      exact hfin.bind fun _ _ h => h

/-- `reapply` hands back the transfer itself, or a transfer into the same engine over the new target. -/
theorem reapplyTransfer_get (st : Store) (oid : Nat) (dest : Engine) (r : Res) (target : Rel) :
    ∃ oid', (reapplyTransfer st oid dest r target).get (.transfer oid dest target) =
      .transfer oid' dest (r.get target) := by
  cases r with
  | same =>
    unfold reapplyTransfer
    cases (st.get oid).isNone
    · exact ⟨0, rfl⟩
    · exact ⟨oid, rfl⟩
  | new t => exact ⟨0, rfl⟩

theorem backtrack_sql (st : Store) (fuel : Nat) (op : AnyOp) (t : Rel) (pref : Engine) (hk : t.engine.kind = .sql) :
    backtrack st (fuel+1) op t pref = .ok (.same, false) := by
  rw [backtrack.eq_def]
  simp only [hk]

theorem backtrack_locked (st : Store) (fuel : Nat) (op : AnyOp) (tree : Rel) (pref : Engine)
    (h : tree.isLocked = true) : backtrack st (fuel+1) op tree pref = .ok (.same, false) := by
  cases tree with
  | leaf | mat =>
    rw [backtrack.eq_def]
    simp only [Rel.isLocked, if_true]
    split <;> rfl
  | _ => cases h

theorem backtrack_step (st : Store) (fuel : Nat) (op : AnyOp) (tree : Rel) (pref : Engine) :
    backtrack st (fuel+1) op tree pref = .ok (.same, false) ∨
    backtrack st (fuel+1) op tree pref = .error .notImpl ∨
    (∃ oid dest target, tree = .transfer oid dest target ∧ dest.kind = .iter ∧
      backtrack st (fuel+1) op tree pref =
        if target.engine == pref then
          (applyOp st fuel op target {}).map fun r => (reapplyTransfer st oid dest r target, true)
        else (backtrack st fuel op target pref).map fun x => (reapplyTransfer st oid dest x.1 target, x.2)) ∨
    (∃ cur target ccols, tree = .unary cur target ccols ∧ target.engine.kind = .iter ∧
      backtrack st (fuel+1) op tree pref =
        match op.commute cur target.columns ccols with
        | (none, _, cdone) => .ok (.same, cdone)
        | (some f, second, cdone) =>
          (backtrack st fuel f target pref).bind fun x => backtrackFinish cur ccols target second cdone x.1 x.2) := by
  -- the engine's kind first: the equations of `backtrack` are rewritten with it known
  cases hk : tree.engine.kind with
  | sql => exact Or.inl (backtrack_sql st fuel op tree pref hk)
  | iter =>
    cases tree with
    | leaf | mat => exact Or.inl (backtrack_locked st fuel op _ pref rfl)
    | binary => exact Or.inl (by rw [backtrack.eq_def]; simp only [hk, Rel.isLocked, Bool.false_eq_true, if_false])
    | select =>
      exact Or.inr (Or.inl (by rw [backtrack.eq_def]; simp only [hk, Rel.isLocked, Bool.false_eq_true, if_false]))
    | transfer oid dest target =>
      refine Or.inr (Or.inr (Or.inl ⟨oid, dest, target, rfl, hk, ?_⟩))
      rw [backtrack]
      simp only [hk, Rel.isLocked, Bool.false_eq_true, if_false]
      split
      · cases applyOp st fuel op target {} <;> rfl
      · cases backtrack st fuel op target pref <;> rfl
    | unary cur target ccols =>
      refine Or.inr (Or.inr (Or.inr ⟨cur, target, ccols, rfl, hk, ?_⟩))
      rw [backtrack]
      simp only [hk, Rel.isLocked, Bool.false_eq_true, if_false]
      rcases op.commute cur target.columns ccols with ⟨_ | f, second, cdone⟩ <;> rfl

end DafRel
