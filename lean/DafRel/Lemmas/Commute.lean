/-
Soundness of `UnaryOperation.commute` for every pair of operations (C04).  The reports come from a table
(`UOp.commute_nonproj`, `UOp.commute_proj_cases`): an operation other than a projection moves whole or not at all.
Most pairs then rest on one fact, `UOp.sem_map_local`: a selection, sort or slice looks at each row's required
columns only, so it commutes with a calculation of another column and with a projection that keeps those columns.
-/
import DafRel.Lemmas.Dedup
import DafRel.Lemmas.Lex
import DafRel.Spec.Commute
import DafRel.Spec.Backtrack

namespace DafRel

theorem calc_dedup (tcols : Cols) (tag : Tag) (e : Expr) (l : List Row) (hl : RowsHaveCols l tcols)
    (htag : tag ∉ tcols) :
    firstOcc (tcols.insert tag) (l.map (fun r => r.set tag (e.val r))) =
      (firstOcc tcols l).map (fun r => r.set tag (e.val r)) := by
  rw [firstOcc_eq_by, firstOcc_eq_by]
  refine firstOccBy_map_on (fun r : Row => r.proj (tcols.insert tag)) (fun r : Row => r.proj tcols)
    (fun r => r.set tag (e.val r)) l [] l nofun (fun _ => id) fun a b ha hb => ⟨fun h => ?_, fun h => ?_⟩
  · rw [← Row.agree_iff_proj] at h ⊢
    simp only [Row.agree, List.all_eq_true, beq_iff_eq] at h ⊢
    intro t ht
    have hne : t ≠ tag := fun he => htag (he ▸ ht)
    have := h t ((Cols.mem_insert tcols tag t).mpr (Or.inl ht))
    simpa [Row.set, hne] using this
  · rw [Row.ext_of_cols (hl a ha) (hl b hb) h]

theorem sel_dedup (tcols : Cols) (p : Row → Bool) (l : List Row) (hl : RowsHaveCols l tcols) :
    firstOcc tcols (l.filter p) = (firstOcc tcols l).filter p := by
  rw [firstOcc_eq_by, firstOcc_eq_by]
  exact firstOccBy_filter _ p [] l fun a b ha hb h => by rw [Row.ext_of_cols (hl a ha) (hl b hb) h]

theorem sort_dedup (tcols : Cols) (ts : List SortTerm) (l : List Row) (hl : RowsHaveCols l tcols) :
    firstOcc tcols (isort (lexLe ts) l) = isort (lexLe ts) (firstOcc tcols l) := by
  rw [firstOcc_eq_by, firstOcc_eq_by]
  exact firstOccBy_isort _ (lexLe_total ts) (lexLe_trans ts) [] l fun a b ha hb h =>
    Row.ext_of_cols (hl a ha) (hl b hb) h

/-- The operations whose result depends on each row's required columns only. -/
def UOp.rowLocal : UOp → Bool
  | .identity | .sel _ | .slice _ _ | .sort _ => true
  | _ => false

theorem UOp.sem_map_local (cur : UOp) (hk : cur.rowLocal = true) (f : Row → Row)
    (hf : ∀ r t, t ∈ cur.columnsRequired → f r t = r t) (c1 c2 : Cols) (l : List Row) :
    cur.sem c1 (l.map f) = (cur.sem c2 l).map f := by
  cases cur with
  | dedup | «calc» _ _ | proj _ => cases hk
  | identity => rfl
  | slice a b => exact sliceList_map f a b l
  | sel p =>
    simp only [UOp.sem, List.filter_map]
    congr 1
    exact List.filter_congr fun r _ => Pred.val_congr _ _ p (hf r)
  | sort ts =>
    exact isort_lexLe_map ts f l fun t ht r => Expr.val_congr _ _ t.expr fun x hx =>
      hf r x ((mem_sortCols ts x).mpr ⟨t, ht, hx⟩)

theorem UOp.rowLocal_facts {cur : UOp} (hk : cur.rowLocal = true) :
    (∀ c, cur.appliedColumns c = c) ∧ ∀ c, cur.wfOn c = cur.columnsRequired.subset c := by
  cases cur with
  | dedup | «calc» _ _ | proj _ => cases hk
  | identity | sel _ | slice _ _ | sort _ => exact ⟨fun _ => rfl, fun _ => Bool.and_true _⟩

theorem UOp.sem_proj (c x : Cols) (l : List Row) : (UOp.proj c).sem x l = l.map (fun r => r.restrict c) := rfl
theorem UOp.appliedColumns_proj (c x : Cols) : (UOp.proj c).appliedColumns x = c := rfl

def UOp.isRowMap : UOp → Bool
  | .calc _ _ | .proj _ => true
  | _ => false

/-- `o` finds its required columns before and after `cur`: the calculated column is none of them, the projection keeps
them. -/
theorem UOp.sem_local_rowMap {o cur : UOp} (ho : o.rowLocal = true) (hm : cur.isRowMap = true) {tcols : Cols}
    (hcur : cur.wfOn tcols = true) (h1 : o.columnsRequired.subset tcols = true)
    (h2 : o.columnsRequired.subset (cur.appliedColumns tcols) = true) (c1 c2 c3 c4 : Cols) (l : List Row) :
    cur.sem c1 (o.sem c2 l) = o.sem c3 (cur.sem c4 l) := by
  cases cur with
  | «calc» tag e =>
    exact (o.sem_map_local ho _ (fun r t ht => Row.set_of_ne r tag _ fun h =>
      ((UOp.wfOn_calc tag e tcols).mp hcur).2 (h ▸ Cols.mem_of_subset h1 ht)) c3 c2 l).symm
  | proj c =>
    exact (o.sem_map_local ho _ (fun r t ht => Row.restrict_of_mem r c t (Cols.mem_of_subset h2 ht)) c3 c2 l).symm
  | _ => cases hm

theorem UOp.eq_proj_of_isProj {o : UOp} (h : o.isProj = true) : ∃ cols, o = .proj cols := by
  cases o <;> cases h; exact ⟨_, rfl⟩

def UOp.movedPast (o cur : UOp) : UOp :=
  match o, cur with
  | .calc tag _, .proj c => .proj (c.insert tag)
  | _, _ => cur

def UOp.isSortOp : UOp → Bool
  | .sort _ => true
  | _ => false

/-- The test `commute` makes before it lets an operation other than a projection move past `cur`. -/
def UOp.moves (o cur : UOp) (tcols ccols : Cols) : Bool :=
  match o with
  | .calc tag e => e.columnsRequired.subset tcols && decide (tag ∉ tcols)
  | .dedup => tcols.subset ccols && !cur.isCountDependent
  | .sel p => p.columnsRequired.subset tcols && !cur.isCountDependent
  | .slice _ _ => cur.isRowMap
  | .sort ts => !cur.isSortOp && ((sortCols ts).subset tcols && !cur.isOrderDependent)
  | _ => true

theorem UOp.commute_nonproj (o cur : UOp) (tcols ccols : Cols) (ho : o.isProj = false) :
    o.commute cur tcols ccols =
      if o.moves cur tcols ccols then ⟨some o, o.movedPast cur, true⟩ else commuteFail cur := by
  cases o with
  | proj cols => cases ho
  | identity | slice _ _ => cases cur <;> rfl
  | dedup | sel _ => exact ite_refuse_refuse ..
  | «calc» tag e =>
    refine (ite_refuse_refuse' ..).trans ?_
    cases cur <;> rfl
  | sort ts =>
    refine (ite_refuse_refuse ..).trans ?_
    -- past a Sort both branches of the model's last test refuse (`ite_self`); past any other class the sides agree
    cases cur <;> first | rfl | exact ite_self _

theorem UOp.movedPast_cases (o cur : UOp) :
    o.movedPast cur = cur ∨ ∃ tag e c, o = .calc tag e ∧ cur = .proj c ∧ o.movedPast cur = .proj (c.insert tag) := by
  unfold UOp.movedPast
  split
  · exact Or.inr ⟨_, _, _, rfl, rfl, rfl⟩
  · exact Or.inl rfl

theorem commute_done_of_nonproj {o cur : UOp} {tcols ccols : Cols} {f second : UOp} {cdone : Bool}
    (hc : o.commute cur tcols ccols = ⟨some f, second, cdone⟩) (hnp : o.isProj = false) :
    f = o ∧ second = o.movedPast cur ∧ cdone = true := by
  rw [UOp.commute_nonproj o cur tcols ccols hnp] at hc
  split at hc <;> cases hc
  exact ⟨rfl, rfl, rfl⟩

theorem UOp.commute_proj_cases (cols : Cols) (cur : UOp) (tcols ccols : Cols) :
    ∃ F, (∃ d, (UOp.proj cols).commute cur tcols ccols = ⟨some (.proj F), cur, d⟩) ∨
      (UOp.proj cols).commute cur tcols ccols = ⟨some (.proj F), .identity, true⟩ := by
  -- past an operation it keeps, the projection moves as it is or widened (cf. `commute_proj_widen`)
  have keep : ∀ C : Cols, ∃ F d,
      (if !(cur.columnsRequired.subset C) then (⟨some (.proj (C.union cur.columnsRequired)), cur, false⟩ : Commutator)
        else ⟨some (.proj C), cur, true⟩) = ⟨some (.proj F), cur, d⟩ :=
    fun C => by split <;> exact ⟨_, _, rfl⟩
  cases cur with
  | proj _ => exact ⟨_, Or.inr rfl⟩
  | «calc» tag e =>
    by_cases ht : tag ∈ cols
    · obtain ⟨F, d, h⟩ := keep (cols.diff [tag])
      exact ⟨F, Or.inl ⟨d, (if_neg (not_not_intro ht)).trans h⟩⟩
    · exact ⟨_, Or.inr (if_pos ht)⟩
  | _ =>
    obtain ⟨F, d, h⟩ := keep cols
    exact ⟨F, Or.inl ⟨d, h⟩⟩

theorem UOp.commute_none (o cur : UOp) (tcols ccols : Cols) (h : (o.commute cur tcols ccols).first = none) :
    o.commute cur tcols ccols = UOp.commuteFail cur := by
  cases ho : o.isProj with
  | false =>
    rw [UOp.commute_nonproj o cur tcols ccols ho] at h ⊢
    split at h
    · cases h
    · rename_i hm; rw [if_neg hm]
  | true =>
    obtain ⟨cols, rfl⟩ := UOp.eq_proj_of_isProj ho
    obtain ⟨F, ⟨d, hc⟩ | hc⟩ := UOp.commute_proj_cases _ cur tcols ccols <;> rw [hc] at h <;> cases h

theorem commute_proj_second {cols F tcols ccols : Cols} {cur second : UOp} {cdone : Bool}
    (hc : (UOp.proj cols).commute cur tcols ccols = ⟨some (.proj F), second, cdone⟩) (hnd : cur.isDedup = false) :
    (second = cur ∨ second = .identity) ∧ (second.rowLocal = true ∨ ∃ tag e, second = .calc tag e) := by
  obtain ⟨F', ⟨d, h⟩ | h⟩ := UOp.commute_proj_cases cols cur tcols ccols <;> cases h.symm.trans hc
  · refine ⟨Or.inl rfl, ?_⟩
    cases cur with
    | dedup => cases hnd
    | proj c => cases hc
    | «calc» tag e => exact Or.inr ⟨tag, e, rfl⟩
    | identity | sel _ | slice _ _ | sort _ => exact Or.inl rfl
  · exact ⟨Or.inr rfl, Or.inl rfl⟩

theorem commute_proj_first (cols : Cols) (cur : UOp) (tcols ccols : Cols) (f : UOp)
    (h : ((UOp.proj cols).commute cur tcols ccols).first = some f) : ∃ F, f = .proj F := by
  obtain ⟨F, ⟨d, hc⟩ | hc⟩ := UOp.commute_proj_cases cols cur tcols ccols <;> rw [hc] at h <;> cases h <;>
    exact ⟨F, rfl⟩

theorem commuteSoundAt_iff {o cur : UOp} {tcols : Cols} {l : List Row} {f second : UOp} {cdone : Bool}
    (hc : o.commute cur tcols (cur.appliedColumns tcols) = ⟨some f, second, cdone⟩) :
    commuteSoundAt o cur tcols l ↔
      let ccols := cur.appliedColumns tcols
      let fc := f.appliedColumns tcols
      let sc := second.appliedColumns fc
      f.wfOn tcols = true ∧ second.wfOn fc = true ∧
        (cdone = true →
          second.sem sc (f.sem fc l) = o.sem (o.appliedColumns ccols) (cur.sem ccols l) ∧
          (∀ x, x ∈ sc ↔ x ∈ o.appliedColumns ccols)) ∧
        (cdone = false →
          o.wfOn sc = true ∧
          o.sem (o.appliedColumns sc) (second.sem sc (f.sem fc l)) = o.sem (o.appliedColumns ccols) (cur.sem ccols l) ∧
          (∀ x, x ∈ o.appliedColumns sc ↔ x ∈ o.appliedColumns ccols) ∧
          (∀ x, x ∈ sc → x ∈ ccols)) := by
  -- with `hc` the `match` of `commuteSoundAt` is at its `some f` branch; its `if c.done` is the two implications
  unfold commuteSoundAt
  simp only [hc]
  cases cdone <;> simp

theorem commuteSoundAt_nonproj {o cur : UOp} {tcols : Cols} {l : List Row} (ho : o.isProj = false)
    (h : o.moves cur tcols (cur.appliedColumns tcols) = true →
      o.wfOn tcols = true ∧ (o.movedPast cur).wfOn (o.appliedColumns tcols) = true ∧
      (o.movedPast cur).sem ((o.movedPast cur).appliedColumns (o.appliedColumns tcols))
          (o.sem (o.appliedColumns tcols) l) =
        o.sem (o.appliedColumns (cur.appliedColumns tcols)) (cur.sem (cur.appliedColumns tcols) l) ∧
      ∀ x, x ∈ (o.movedPast cur).appliedColumns (o.appliedColumns tcols) ↔
        x ∈ o.appliedColumns (cur.appliedColumns tcols)) :
    commuteSoundAt o cur tcols l := by
  by_cases hm : o.moves cur tcols (cur.appliedColumns tcols) = true
  · simp only [commuteSoundAt, UOp.commute_nonproj o cur tcols _ ho, hm, if_true]
    exact h hm
  · simp only [commuteSoundAt, UOp.commute_nonproj o cur tcols _ ho, hm, UOp.commuteFail, Bool.false_eq_true, if_false]

/-- For an operation that keeps the columns (anything but a calculation or a projection) the existing operation is
kept too: what is left is that the two list functions commute. -/
theorem commuteSoundAt_swap {o cur : UOp} {tcols : Cols} {l : List Row} (ho : o.isRowMap = false)
    (hcur : cur.wfOn tcols = true)
    (h : o.moves cur tcols (cur.appliedColumns tcols) = true →
      o.wfOn tcols = true ∧
      cur.sem (cur.appliedColumns tcols) (o.sem tcols l) =
        o.sem (cur.appliedColumns tcols) (cur.sem (cur.appliedColumns tcols) l)) :
    commuteSoundAt o cur tcols l := by
  obtain ⟨hp, hmv, hkeep⟩ : o.isProj = false ∧ o.movedPast cur = cur ∧ ∀ c, o.appliedColumns c = c := by
    cases o <;> first | exact ⟨rfl, rfl, fun _ => rfl⟩ | cases ho
  refine commuteSoundAt_nonproj hp fun hm => ?_
  rw [hmv, hkeep, hkeep]
  exact ⟨(h hm).1, hcur, (h hm).2, fun _ => Iff.rfl⟩

theorem commute_sel (p : Pred) (cur : UOp) (tcols : Cols) (l : List Row)
    (hl : RowsHaveCols l tcols) (hcur : cur.wfOn tcols = true)
    (hself : (UOp.sel p).wfOn (cur.appliedColumns tcols) = true) :
    commuteSoundAt (.sel p) cur tcols l := by
  refine commuteSoundAt_swap rfl hcur fun hm => ?_
  obtain ⟨h1, hcd⟩ : p.columnsRequired.subset tcols = true ∧ cur.isCountDependent = false := by
    simpa [UOp.moves] using hm
  refine ⟨(UOp.wfOn_sel p tcols).trans h1, ?_⟩
  cases cur with
  | slice a b => cases hcd
  | identity => rfl
  | dedup => exact sel_dedup tcols _ l hl
  | sort ts => exact (filter_isort (lexLe_total ts) (lexLe_trans ts) _ l).symm
  | sel q =>
    simp only [UOp.sem, List.filter_filter]
    exact List.filter_congr fun r _ => Bool.and_comm _ _
  | «calc» _ _ | proj _ =>
    exact UOp.sem_local_rowMap (o := .sel p) rfl rfl hcur h1 ((UOp.wfOn_sel p _).symm.trans hself) _ _ _ _ l

theorem commute_sort (ts : List SortTerm) (cur : UOp) (tcols : Cols) (l : List Row)
    (hl : RowsHaveCols l tcols) (hcur : cur.wfOn tcols = true)
    (hself : (UOp.sort ts).wfOn (cur.appliedColumns tcols) = true) :
    commuteSoundAt (.sort ts) cur tcols l := by
  refine commuteSoundAt_swap rfl hcur fun hm => ?_
  obtain ⟨hns, h1, hod⟩ : cur.isSortOp = false ∧ (UOp.sortCols ts).subset tcols = true ∧
      cur.isOrderDependent = false := by
    simpa [UOp.moves] using hm
  refine ⟨(UOp.wfOn_sort ts tcols).trans h1, ?_⟩
  cases cur with
  | slice a b => cases hod
  | sort ts0 => cases hns
  | identity => rfl
  | dedup => exact sort_dedup tcols ts l hl
  | sel q => exact filter_isort (lexLe_total ts) (lexLe_trans ts) _ l
  | «calc» _ _ | proj _ =>
    exact UOp.sem_local_rowMap (o := .sort ts) rfl rfl hcur h1 ((UOp.wfOn_sort ts _).symm.trans hself) _ _ _ _ l

theorem commute_dedup (cur : UOp) (tcols : Cols) (l : List Row)
    (hl : RowsHaveCols l tcols) (hcur : cur.wfOn tcols = true) :
    commuteSoundAt .dedup cur tcols l := by
  refine commuteSoundAt_swap rfl hcur fun hm => ⟨rfl, ?_⟩
  obtain ⟨h1, hcd⟩ : tcols.subset (cur.appliedColumns tcols) = true ∧ cur.isCountDependent = false := by
    simpa [UOp.moves] using hm
  cases cur with
  | slice a b => cases hcd
  | identity => rfl
  | dedup => rfl
  | sel p => exact (sel_dedup tcols _ l hl).symm
  | sort ts => exact (sort_dedup tcols ts l hl).symm
  | «calc» tag e => exact (calc_dedup tcols tag e l hl ((UOp.wfOn_calc tag e tcols).mp hcur).2).symm
  | proj c =>
    -- a projection that keeps all columns changes nothing
    have hc : ∀ t, t ∈ c ↔ t ∈ tcols :=
      fun t => ⟨Cols.mem_of_subset ((UOp.wfOn_proj c tcols).symm.trans hcur), Cols.mem_of_subset h1⟩
    show (firstOcc tcols l).map _ = firstOcc c (l.map _)
    rw [map_restrict_self l tcols c hl hc,
      map_restrict_self (firstOcc tcols l) tcols c (fun r hr => hl r (mem_firstOccAux _ _ _ _ hr)) hc]
    exact firstOcc_congr tcols c (fun t => (hc t).symm) l

theorem commute_calc (tag : Tag) (e : Expr) (cur : UOp) (tcols : Cols) (l : List Row)
    (hl : RowsHaveCols l tcols) (hcur : cur.wfOn tcols = true)
    (hself : (UOp.calc tag e).wfOn (cur.appliedColumns tcols) = true) :
    commuteSoundAt (.calc tag e) cur tcols l := by
  refine commuteSoundAt_nonproj rfl fun hm => ?_
  obtain ⟨h1, h2⟩ : e.columnsRequired.subset tcols = true ∧ tag ∉ tcols := by simpa [UOp.moves] using hm
  obtain ⟨hreqc, htagc⟩ := (UOp.wfOn_calc tag e _).mp hself
  have hins : ∀ t, t ∈ tcols → t ∈ tcols.insert tag := fun t ht => (Cols.mem_insert tcols tag t).mpr (Or.inl ht)
  refine ⟨(UOp.wfOn_calc tag e tcols).mpr ⟨h1, h2⟩, ?_⟩
  -- a row-local operation does not look at the new column
  have hlocal : cur.rowLocal = true →
      cur.wfOn (tcols.insert tag) = true ∧
      cur.sem (cur.appliedColumns (tcols.insert tag)) (l.map fun r => r.set tag (e.val r)) =
        (cur.sem (cur.appliedColumns tcols) l).map (fun r => r.set tag (e.val r)) ∧
      ∀ x, x ∈ cur.appliedColumns (tcols.insert tag) ↔ x ∈ (cur.appliedColumns tcols).insert tag := by
    intro hk
    obtain ⟨hkeep, hwf⟩ := UOp.rowLocal_facts hk
    have hreq : cur.columnsRequired.subset tcols = true := hwf tcols ▸ hcur
    rw [hkeep, hkeep, hwf]
    exact ⟨Cols.subset_mono hreq hins,
      cur.sem_map_local hk _ (fun r t ht => Row.set_of_ne r tag _ fun h => h2 (h ▸ Cols.mem_of_subset hreq ht)) _ _ l,
      fun _ => Iff.rfl⟩
  cases cur with
  | identity | sel _ | slice _ _ | sort _ => exact hlocal rfl
  | dedup => exact ⟨rfl, calc_dedup tcols tag e l hl h2, fun _ => Iff.rfl⟩
  | proj c =>
    simp only [UOp.movedPast]
    refine ⟨?_, ?_, fun _ => Iff.rfl⟩
    · rw [UOp.wfOn_proj] at hcur ⊢
      exact (Cols.subset_iff _ _).mpr fun x hx => (Cols.mem_insert tcols tag x).mpr
        (((Cols.mem_insert c tag x).mp hx).imp_left (Cols.mem_of_subset hcur))
    · exact map_map_congr l fun r => by rw [Row.set_restrict_insert, Expr.val_restrict e r c hreqc]
  | «calc» t2 e2 =>
    obtain ⟨hreq2, ht2⟩ := (UOp.wfOn_calc t2 e2 tcols).mp hcur
    have hne : t2 ≠ tag := fun he => htagc ((Cols.mem_insert tcols t2 tag).mpr (Or.inr he.symm))
    simp only [UOp.movedPast]
    refine ⟨(UOp.wfOn_calc t2 e2 _).mpr ⟨Cols.subset_mono hreq2 hins, fun hm => ?_⟩, ?_, fun x => ?_⟩
    · exact ((Cols.mem_insert tcols tag t2).mp hm).elim ht2 hne
    · -- neither expression looks at the other's column
      refine map_map_congr l fun r => ?_
      rw [Expr.val_set e2 r tag _ fun hm => h2 (Cols.mem_of_subset hreq2 hm),
        Expr.val_set e r t2 _ fun hm => ht2 (Cols.mem_of_subset h1 hm)]
      exact Row.set_set_comm r tag t2 _ _ fun he => hne he.symm
    · simp only [UOp.appliedColumns, Cols.mem_insert]
      exact or_right_comm

/-- A row-local operation or a calculation commutes with the restriction to columns `G` that hold what it requires. -/
theorem UOp.sem_restrict {cur : UOp} (hk : cur.rowLocal = true ∨ ∃ tag e, cur = .calc tag e) {tcols G : Cols}
    (hcur : cur.wfOn tcols = true) (hG : ∀ t, t ∈ G → t ∈ tcols) (hreq : cur.columnsRequired.subset G = true)
    (c1 c2 : Cols) (l : List Row) :
    cur.wfOn G = true ∧
      cur.sem c1 (l.map fun r => r.restrict G) = (cur.sem c2 l).map fun r => r.restrict (cur.appliedColumns G) := by
  rcases hk with hk | ⟨tag, e, rfl⟩
  · obtain ⟨hkeep, hwf⟩ := UOp.rowLocal_facts hk
    rw [hkeep, hwf]
    exact ⟨hreq,
      cur.sem_map_local hk _ (fun r t ht => Row.restrict_of_mem r G t (Cols.mem_of_subset hreq ht)) c1 c2 l⟩
  · refine ⟨(UOp.wfOn_calc tag e G).mpr ⟨hreq, fun h => ((UOp.wfOn_calc tag e tcols).mp hcur).2 (hG tag h)⟩, ?_⟩
    exact map_map_congr l fun r => by
      rw [Expr.val_restrict e r G hreq]; exact (Row.set_restrict_insert r G tag _).symm

/-- A projection onto `cols` past an operation its report keeps.  `C` is what moves (`cols`, or `cols` without the
column of a calculation) if it holds the columns `cur` requires; otherwise the projection moves widened by those and is
applied again on top (the move is not `done`). -/
theorem commute_proj_widen {cols C tcols : Cols} {cur : UOp} {l : List Row}
    (hk : cur.rowLocal = true ∨ ∃ tag e, cur = .calc tag e) (hcur : cur.wfOn tcols = true)
    (hc : (UOp.proj cols).commute cur tcols (cur.appliedColumns tcols) =
      if !(cur.columnsRequired.subset C) then ⟨some (.proj (C.union cur.columnsRequired)), cur, false⟩
      else ⟨some (.proj C), cur, true⟩)
    (hC : ∀ t, t ∈ C → t ∈ tcols)
    (hin : ∀ G : Cols, (∀ t, t ∈ C → t ∈ G) → ∀ x, x ∈ cols → x ∈ cur.appliedColumns G)
    (hout : ∀ x, x ∈ cur.appliedColumns C → x ∈ cols) :
    commuteSoundAt (.proj cols) cur tcols l := by
  have hwfp : ∀ G : Cols, (∀ t, t ∈ G → t ∈ tcols) → (UOp.proj G).wfOn tcols = true :=
    fun G hG => (UOp.wfOn_proj G tcols).trans ((Cols.subset_iff _ _).mpr hG)
  by_cases h : cur.columnsRequired.subset C = true
  · rw [h] at hc
    obtain ⟨w, hs⟩ := UOp.sem_restrict hk hcur hC h (cur.appliedColumns C) (cur.appliedColumns tcols) l
    have hcols : ∀ x, x ∈ cur.appliedColumns C ↔ x ∈ cols := fun x => ⟨hout x, hin C (fun _ h => h) x⟩
    refine (commuteSoundAt_iff hc).mpr ⟨hwfp C hC, w, fun _ => ⟨hs.trans ?_, hcols⟩, nofun⟩
    exact List.map_congr_left fun r _ => Row.restrict_congr r _ _ hcols
  · rw [Bool.not_eq_true] at h
    rw [h] at hc
    have hl : ∀ t, t ∈ C → t ∈ C.union cur.columnsRequired := fun t ht => (Cols.mem_union _ _ t).mpr (Or.inl ht)
    have hr : cur.columnsRequired.subset (C.union cur.columnsRequired) = true :=
      (Cols.subset_iff _ _).mpr fun t ht => (Cols.mem_union _ _ t).mpr (Or.inr ht)
    have hF : ∀ t, t ∈ C.union cur.columnsRequired → t ∈ tcols := fun t ht =>
      ((Cols.mem_union _ _ t).mp ht).elim (hC t) (UOp.subset_of_wfOn hcur t)
    obtain ⟨w, hs⟩ := UOp.sem_restrict hk hcur hF hr
      (cur.appliedColumns (C.union cur.columnsRequired)) (cur.appliedColumns tcols) l
    refine (commuteSoundAt_iff hc).mpr ⟨hwfp _ hF, w, nofun,
      fun _ => ⟨?_, ?_, fun _ => Iff.rfl, fun x => cur.mem_appliedColumns_mono hF⟩⟩
    · rw [UOp.wfOn_proj]; exact (Cols.subset_iff _ _).mpr (hin _ hl)
    · simp only [UOp.sem_proj, UOp.appliedColumns_proj]
      rw [hs]
      exact map_restrict_restrict _ cols _ (hin _ hl)

/-- A projection moves upstream of everything except a deduplication (see
`Props.C04.commute_proj_dedup_unsound`, downstream in `Props/C04.lean`). -/
theorem commute_proj (cols : Cols) (cur : UOp) (tcols : Cols) (l : List Row)
    (hcur : cur.wfOn tcols = true) (hself : (UOp.proj cols).wfOn (cur.appliedColumns tcols) = true)
    (hnd : cur.isDedup = false) :
    commuteSoundAt (.proj cols) cur tcols l := by
  cases cur with
  | dedup => cases hnd
  | identity | slice _ _ | sel _ | sort _ =>
    exact commute_proj_widen (C := cols) (Or.inl rfl) hcur rfl
      (fun _ => Cols.mem_of_subset ((UOp.wfOn_proj cols _).symm.trans hself)) (fun _ hG => hG) fun _ hx => hx
  | proj c0 =>
    rw [UOp.wfOn_proj] at hself hcur
    refine (commuteSoundAt_iff (f := .proj cols) (second := .identity) (cdone := true) rfl).mpr
      ⟨(UOp.wfOn_proj _ _).trans (Cols.subset_trans hself hcur), rfl, fun _ => ⟨?_, fun _ => Iff.rfl⟩, nofun⟩
    exact (map_restrict_restrict _ cols c0 fun _ => Cols.mem_of_subset hself).symm
  | «calc» tag e =>
    have hsub : ∀ x, x ∈ cols → x ≠ tag → x ∈ tcols := fun x hx hne =>
      ((Cols.mem_insert tcols tag x).mp (Cols.mem_of_subset ((UOp.wfOn_proj cols _).symm.trans hself) hx)).resolve_right hne
    by_cases ht : tag ∈ cols
    · -- the projection keeps the calculated column: what moves is `cols` without it
      have hcm := Cols.mem_diff_singleton cols tag
      refine commute_proj_widen (C := cols.diff [tag]) (Or.inr ⟨tag, e, rfl⟩) hcur (if_neg fun h => h ht)
        (fun x hx => hsub x ((hcm x).mp hx).1 ((hcm x).mp hx).2) (fun G hG x hx => ?_) fun x hx => ?_
      · exact (Cols.mem_insert G tag x).mpr
          ((Decidable.em (x = tag)).elim Or.inr fun hne => Or.inl (hG x ((hcm x).mpr ⟨hx, hne⟩)))
      · exact ((Cols.mem_insert _ tag x).mp hx).elim (fun h => ((hcm x).mp h).1) (· ▸ ht)
    · -- the projection drops the calculated column: the calculation disappears
      have hc : (UOp.proj cols).commute (.calc tag e) tcols ((UOp.calc tag e).appliedColumns tcols) =
          ⟨some (.proj cols), .identity, true⟩ := by simp only [UOp.commute, ht, not_false_eq_true, if_true]
      refine (commuteSoundAt_iff hc).mpr
        ⟨(UOp.wfOn_proj _ _).trans ((Cols.subset_iff _ _).mpr fun x hx => hsub x hx fun h => ht (h ▸ hx)), rfl,
          fun _ => ⟨?_, fun _ => Iff.rfl⟩, nofun⟩
      simp only [UOp.sem, List.map_map]
      exact List.map_congr_left fun r _ => (Row.restrict_set r cols tag _ ht).symm

/-- **C04**: every commutation report is sound, except that of a projection over a deduplication. -/
theorem commute_sound (o cur : UOp) (tcols : Cols) (l : List Row)
    (hl : RowsHaveCols l tcols) (hcur : cur.wfOn tcols = true)
    (hself : o.wfOn (cur.appliedColumns tcols) = true)
    (hex : ∀ c, o = .proj c → cur.isDedup = false) :
    commuteSoundAt o cur tcols l := by
  cases o with
  | identity => exact commuteSoundAt_swap rfl hcur fun _ => ⟨rfl, rfl⟩
  | slice a b => exact commuteSoundAt_swap rfl hcur fun hm => ⟨rfl, UOp.sem_local_rowMap rfl hm hcur rfl rfl _ _ _ _ l⟩
  | «calc» tag e => exact commute_calc tag e cur tcols l hl hcur hself
  | dedup => exact commute_dedup cur tcols l hl hcur
  | sel p => exact commute_sel p cur tcols l hl hcur hself
  | sort ts => exact commute_sort ts cur tcols l hl hcur hself
  | proj c => exact commute_proj c cur tcols l hcur hself (hex c rfl)

end DafRel
