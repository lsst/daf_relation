/-
The lexicographic comparator `lexLe` of a list of sort terms is `lexOf (comparator of the first term) (lexLe rest)`,
so the theory of `Sort.lean` applies: it is a total preorder, sorting by `ts2 ++ ts1` is sorting by `ts1` and then
stably by `ts2`, and the iteration engine's multi-pass sort is one stable sort by `lexLe`.  Also: later duplicate terms
are irrelevant (`Sort.then`), and the comparator only looks at the columns of the sort terms (so the sort commutes
with row maps that leave them alone).
-/
import DafRel.Lemmas.Sort
import DafRel.Lemmas.Base
import DafRel.Lemmas.Expr
import DafRel.Model.IterExec

namespace DafRel

def termLe (t : SortTerm) (a b : Row) : Bool :=
  if t.asc then decide (t.expr.val a ≤ t.expr.val b) else decide (t.expr.val a ≥ t.expr.val b)

theorem termLe_total (t : SortTerm) : Total (termLe t) := by
  intro a b
  unfold termLe
  split <;> simp only [decide_eq_true_eq, ge_iff_le] <;> exact Int.le_total _ _

theorem termLe_trans (t : SortTerm) : Trans (termLe t) := by
  intro a b c
  unfold termLe
  split <;> simp only [decide_eq_true_eq, ge_iff_le]
  · exact Int.le_trans
  · exact fun h1 h2 => Int.le_trans h2 h1

theorem lexLe_cons (t : SortTerm) (ts : List SortTerm) : lexLe (t :: ts) = lexOf (termLe t) (lexLe ts) := by
  funext a b
  by_cases h : t.expr.val a = t.expr.val b
  · cases hasc : t.asc <;> simp [lexLe, lexOf, termLe, h, hasc]
  · -- the keys differ: the strict comparison is the non-strict one whose converse fails
    rw [Bool.eq_iff_iff]
    cases hasc : t.asc <;> simp [lexLe, lexOf, termLe, h, hasc] <;> omega

theorem lexLe_nil (a b : Row) : lexLe [] a b = true := rfl

theorem isort_lexLe_nil (l : List Row) : isort (lexLe []) l = l :=
  isort_of_sorted l (List.pairwise_of_forall lexLe_nil)

theorem lexLe_total (ts : List SortTerm) : Total (lexLe ts) := by
  induction ts with
  | nil => exact fun _ _ => Or.inl rfl
  | cons t ts ih => exact lexLe_cons t ts ▸ lexOf_total (termLe_total t) ih

theorem lexLe_trans (ts : List SortTerm) : Trans (lexLe ts) := by
  induction ts with
  | nil => exact fun _ _ _ _ _ => rfl
  | cons t ts ih => exact lexLe_cons t ts ▸ lexOf_trans (termLe_trans t) ih

theorem isort_lexLe_cons (t : SortTerm) (ts : List SortTerm) (l : List Row) :
    isort (lexLe (t :: ts)) l = isort (termLe t) (isort (lexLe ts) l) := by
  rw [lexLe_cons, isort_isort_lex (termLe_total t) (termLe_trans t) (lexLe_total ts) (lexLe_trans ts)]

theorem isort_lexLe_append (ts2 ts1 : List SortTerm) (l : List Row) :
    isort (lexLe ts2) (isort (lexLe ts1) l) = isort (lexLe (ts2 ++ ts1)) l := by
  induction ts2 generalizing l with
  | nil => exact isort_lexLe_nil _
  | cons t ts ih =>
    rw [isort_lexLe_cons, ih, List.cons_append, isort_lexLe_cons]

theorem SortTerm.beq_val (r : Row) (s t : SortTerm) (h : (s == t) = true) : s.expr.val r = t.expr.val r :=
  Expr.beq_val r _ _ (Bool.and_eq_true_iff.mp h).1

theorem lexLe_append (pre rest : List SortTerm) (a b : Row) :
    lexLe (pre ++ rest) a b =
      if ∀ t, t ∈ pre → t.expr.val a = t.expr.val b then lexLe rest a b else lexLe pre a b := by
  induction pre with
  | nil => exact (if_pos nofun).symm
  | cons u us ih =>
    by_cases hk : u.expr.val a = u.expr.val b
    · simp only [List.cons_append, lexLe, hk, if_true, ih, List.forall_mem_cons, true_and]
    · simp only [List.cons_append, lexLe, hk, if_false, List.forall_mem_cons, false_and]

theorem lexLe_append_of_eq (pre rest : List SortTerm) (a b : Row)
    (h : ∀ t, t ∈ pre → t.expr.val a = t.expr.val b) : lexLe (pre ++ rest) a b = lexLe rest a b := by
  rw [lexLe_append, if_pos h]

theorem lexLe_append_congr (pre r1 r2 : List SortTerm) (a b : Row)
    (h : (∀ u, u ∈ pre → u.expr.val a = u.expr.val b) → lexLe r1 a b = lexLe r2 a b) :
    lexLe (pre ++ r1) a b = lexLe (pre ++ r2) a b := by
  rw [lexLe_append, lexLe_append]
  by_cases hall : ∀ u, u ∈ pre → u.expr.val a = u.expr.val b
  · rw [if_pos hall, if_pos hall, h hall]
  · rw [if_neg hall, if_neg hall]

theorem lexLe_insert_dup (pre post : List SortTerm) (t : SortTerm) (a b : Row)
    (h : pre.contains t = true) : lexLe (pre ++ t :: post) a b = lexLe (pre ++ post) a b := by
  refine lexLe_append_congr pre _ _ a b fun hall => ?_
  obtain ⟨u, hu, htu⟩ := List.contains_iff_exists_mem_beq.mp h
  have hteq : t.expr.val a = t.expr.val b := by rw [SortTerm.beq_val a t u htu, SortTerm.beq_val b t u htu, hall u hu]
  simp only [lexLe, hteq, if_true]

theorem lexLe_sortThen (self next : List SortTerm) : lexLe (UOp.sortThen self next) = lexLe (next ++ self) := by
  funext a b
  unfold UOp.sortThen
  induction self generalizing next with
  | nil => simp
  | cons t ts ih =>
    simp only [List.foldl_cons]
    split
    · next hc => rw [ih, lexLe_insert_dup next ts t a b hc]
    · rw [ih, List.append_assoc, List.singleton_append]

theorem isort_sortThen (s ts : List SortTerm) (l : List Row) :
    isort (lexLe (UOp.sortThen s ts)) l = isort (lexLe ts) (isort (lexLe s) l) := by
  rw [isort_lexLe_append, lexLe_sortThen]

theorem mem_sortThen (self next : List SortTerm) (t : SortTerm) :
    t ∈ UOp.sortThen self next → t ∈ next ∨ t ∈ self := by
  unfold UOp.sortThen
  induction self generalizing next with
  | nil => simp
  | cons u us ih =>
    intro h
    rcases ih (if next.contains u then next else next ++ [u]) h with h' | h'
    · split at h'
      · exact .inl h'
      · exact (List.mem_append.mp h').imp_right fun h'' => List.mem_cons.mpr (.inl (List.mem_singleton.mp h''))
    · exact .inr (List.mem_cons_of_mem _ h')

theorem mem_sortCols (ts : List SortTerm) (c : Tag) :
    c ∈ UOp.sortCols ts ↔ ∃ t, t ∈ ts ∧ c ∈ t.expr.columnsRequired := by
  induction ts with
  | nil => simp [UOp.sortCols]
  | cons u us ih => simp [UOp.sortCols, ih]

theorem sortCols_subset_eq (ts : List SortTerm) (c : Cols) :
    (UOp.sortCols ts).subset c = ts.all (fun tm => tm.expr.columnsRequired.subset c) := by
  induction ts with
  | nil => rfl
  | cons t ts ih =>
    rw [List.all_cons, ← ih]
    exact List.all_append

theorem sortCols_subset_term (ts : List SortTerm) (c : Cols) (h : (UOp.sortCols ts).subset c = true)
    (t : SortTerm) (ht : t ∈ ts) : t.expr.columnsRequired.subset c = true :=
  List.all_eq_true.mp (sortCols_subset_eq ts c ▸ h) t ht

theorem lexLe_congr (ts : List SortTerm) (a a' b b' : Row)
    (ha : ∀ t, t ∈ ts → t.expr.val a' = t.expr.val a) (hb : ∀ t, t ∈ ts → t.expr.val b' = t.expr.val b) :
    lexLe ts a' b' = lexLe ts a b := by
  induction ts with
  | nil => rfl
  | cons t ts ih =>
    simp only [lexLe, ha t (by simp), hb t (by simp)]
    rw [ih (fun u hu => ha u (by simp [hu])) (fun u hu => hb u (by simp [hu]))]

theorem isort_lexLe_map (ts : List SortTerm) (g : Row → Row) (l : List Row)
    (h : ∀ t, t ∈ ts → ∀ r, t.expr.val (g r) = t.expr.val r) :
    isort (lexLe ts) (l.map g) = (isort (lexLe ts) l).map g :=
  isort_map g _ _ l fun a b _ _ => lexLe_congr ts a _ b _ (fun t ht => h t ht a) (fun t ht => h t ht b)

theorem isort_lexLe_restrict (ts : List SortTerm) (c : Cols) (h : (UOp.sortCols ts).subset c = true) (l : List Row) :
    isort (lexLe ts) (l.map (fun r => r.restrict c)) = (isort (lexLe ts) l).map (fun r => r.restrict c) :=
  isort_lexLe_map ts _ l fun t ht r => Expr.val_restrict t.expr r c (sortCols_subset_term ts c h t ht)

theorem isort_lexLe_set (ts : List SortTerm) (c : Cols) (tag : Tag) (v : Row → Int)
    (h : (UOp.sortCols ts).subset c = true) (htag : tag ∉ c) (l : List Row) :
    isort (lexLe ts) (l.map (fun r => r.set tag (v r))) = (isort (lexLe ts) l).map (fun r => r.set tag (v r)) :=
  isort_lexLe_map ts _ l fun t ht r => Expr.val_set t.expr r tag _ fun hm =>
    htag (Cols.mem_of_subset (sortCols_subset_term ts c h t ht) hm)

theorem tupleLe_map_asc (g : List SortTerm) (hg : ∀ t, t ∈ g → t.asc = true) (a b : Row) :
    tupleLe (g.map (fun t => t.expr.val a)) (g.map (fun t => t.expr.val b)) = lexLe g a b := by
  induction g with
  | nil => rfl
  | cons t ts ih =>
    simp only [List.map_cons, tupleLe, lexLe, hg t (by simp), if_true, ih fun u hu => hg u (by simp [hu])]

theorem tupleLe_map_desc (g : List SortTerm) (hg : ∀ t, t ∈ g → t.asc = false) (a b : Row) :
    tupleLe (g.map (fun t => t.expr.val b)) (g.map (fun t => t.expr.val a)) = lexLe g a b := by
  induction g with
  | nil => rfl
  | cons t ts ih =>
    simp only [List.map_cons, tupleLe, lexLe, hg t (by simp), ih fun u hu => hg u (by simp [hu]),
      eq_comm (a := t.expr.val b), Bool.false_eq_true, if_false, gt_iff_lt]

theorem sortPass_eq (asc : Bool) (g : List SortTerm) (hg : ∀ t, t ∈ g → t.asc = asc) (l : List Row) :
    sortPass asc g l = isort (lexLe g) l := by
  unfold sortPass
  cases asc with
  | true => exact isort_congr _ _ l fun a b _ _ => tupleLe_map_asc g hg a b
  | false => exact isort_congr _ _ l fun a b _ _ => tupleLe_map_desc g hg a b

theorem groupByAsc_spec (ts : List SortTerm) :
    ((groupByAsc ts).map (·.2)).flatten = ts ∧
    (∀ g, g ∈ groupByAsc ts → ∀ t, t ∈ g.2 → t.asc = g.1) := by
  fun_induction groupByAsc ts with
  | case1 => exact ⟨rfl, nofun⟩
  | case2 t ts asc g rest hg heq ih =>            -- `t` joins the first group
    rw [hg] at ih
    simp only [List.map_cons, List.flatten_cons, List.cons_append, List.forall_mem_cons] at ih ⊢
    exact ⟨congrArg _ ih.1, ⟨(beq_iff_eq.mp heq).symm, ih.2.1⟩, ih.2.2⟩
  | case3 _ _ _ _ _ hg _ ih | case4 _ _ hg ih =>   -- `t` starts a group of its own
    rw [hg] at ih
    simp only [List.map_cons, List.flatten_cons, List.cons_append, List.forall_mem_cons, List.nil_append] at ih ⊢
    exact ⟨congrArg _ ih.1, ⟨trivial, nofun⟩, ih.2⟩

theorem foldl_passes (gs : List (Bool × List SortTerm))
    (h : ∀ g, g ∈ gs → ∀ t, t ∈ g.2 → t.asc = g.1) (l : List Row) :
    gs.reverse.foldl (fun rows g => sortPass g.1 g.2 rows) l
      = isort (lexLe ((gs.map (·.2)).flatten)) l := by
  -- `gs.reverse`: the engine sorts by the last direction group first (`multipassSort`), so the first group decides
  induction gs with
  | nil => exact (isort_lexLe_nil l).symm
  | cons g gs ih =>
    simp only [List.reverse_cons, List.foldl_append, List.foldl_cons, List.foldl_nil, List.map_cons,
      List.flatten_cons]
    rw [ih (fun g' hg' => h g' (by simp [hg'])), sortPass_eq g.1 g.2 (h g (by simp)),
      isort_lexLe_append]

theorem multipassSort_eq (ts : List SortTerm) (l : List Row) :
    multipassSort ts l = isort (lexLe ts) l := by
  unfold multipassSort
  have hs := groupByAsc_spec ts
  rw [foldl_passes _ hs.2, hs.1]

end DafRel
