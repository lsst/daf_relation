/-
The metadata theorem (C06): columns and row bounds are truthful for every well-formed tree
over truthful leaves, hence so are `is_join_identity` and `is_trivial`.
-/
import DafRel.Lemmas.WF

namespace DafRel

/-- Facts the metadata promises about the rows of a relation. -/
structure MetaOK (rows : List Row) (cols : Cols) (mn : Nat) (mx : Option Nat) : Prop where
  keys : RowsHaveCols rows cols
  lower : mn ≤ rows.length
  upper : ∀ m, mx = some m → rows.length ≤ m

/-- Both sides are the length of a slice as `length_sliceList` gives it. -/
theorem sliceLen_mono (s : Nat) (e : Option Nat) {a b : Nat} (h : a ≤ b) :
    (match e with | none => a | some e => min e a) - s ≤ (match e with | none => b | some e => min e b) - s := by
  cases e with
  | none => exact Nat.sub_le_sub_right h s
  | some e =>
    exact Nat.sub_le_sub_right (Nat.le_min.mpr ⟨Nat.min_le_left _ _, Nat.le_trans (Nat.min_le_right _ _) h⟩) s

theorem UOp.length_sem_le (op : UOp) (rows : List Row) (c : Cols) : (op.sem c rows).length ≤ rows.length := by
  cases op with
  | «calc» _ _ | proj _ => exact Nat.le_of_eq (List.length_map _)
  | identity => exact Nat.le_refl _
  | dedup => exact length_firstOccAux_le _ _ _
  | sel p => exact List.length_filter_le _ _
  | slice s e =>
    show (sliceList s e rows).length ≤ _
    rw [length_sliceList]
    cases e with
    | none => exact Nat.sub_le _ _
    | some e => exact Nat.le_trans (Nat.sub_le _ _) (Nat.min_le_right _ _)
  | sort ts => exact Nat.le_of_eq (length_isort _ _)

theorem UOp.length_sem_of_countInvariant (op : UOp) (rows : List Row) (c : Cols) (h : op.isCountInvariant = true) :
    (op.sem c rows).length = rows.length := by
  cases op with
  | «calc» _ _ | proj _ => exact List.length_map _
  | identity => rfl
  | sort ts => exact length_isort _ _
  | dedup | sel _ | slice _ _ => cases h

/-- The step of `metadata_truthful` at a unary node: `applied_columns`, `applied_min_rows` and `applied_max_rows`
of each operation class are truthful when the target's metadata is. -/
theorem UOp.meta_ok (op : UOp) (rows : List Row) (tcols : Cols) (mn : Nat) (mx : Option Nat)
    (h : MetaOK rows tcols mn mx) (hwf : op.wfOn tcols = true) :
    MetaOK (op.sem (op.appliedColumns tcols) rows) (op.appliedColumns tcols) (op.appliedMinRows mn)
      (op.appliedMaxRows tcols mx) where
  keys r hr := by
    cases op with
    | «calc» tag e =>
      obtain ⟨r0, hr0, rfl⟩ := List.mem_map.mp hr
      exact (h.keys r0 hr0).set tag _
    | proj c =>
      obtain ⟨r0, hr0, rfl⟩ := List.mem_map.mp hr
      exact (h.keys r0 hr0).restrict c fun t => Cols.mem_of_subset ((UOp.wfOn_proj c tcols).symm.trans hwf)
    | dedup => exact h.keys r (mem_firstOccAux _ _ _ _ hr)
    | identity => exact h.keys r hr
    | sel p => exact h.keys r (List.mem_filter.mp hr).1
    | slice s e => exact h.keys r ((sliceList_sublist s e rows).subset hr)
    | sort ts => exact h.keys r ((mem_isort _ _ _).mp hr)
  lower := by
    cases op with
    | «calc» _ _ | identity | proj _ | sort _ => rw [UOp.length_sem_of_countInvariant _ rows _ rfl]; exact h.lower
    | sel _ => exact Nat.zero_le _
    | dedup =>
      show (if mn ≥ 1 then 1 else 0) ≤ (firstOcc tcols rows).length
      split
      · next h1 =>
        exact List.length_pos_iff.mpr (firstOcc_ne_nil _ rows (List.ne_nil_of_length_pos (Nat.le_trans h1 h.lower)))
      · exact Nat.zero_le _
    | slice s e =>
      show _ ≤ (sliceList s e rows).length
      rw [length_sliceList]
      have := sliceLen_mono s e h.lower
      cases e <;> exact this
  upper m hm := by
    have hle := UOp.length_sem_le op rows (op.appliedColumns tcols)
    cases op with
    | «calc» _ _ | identity | proj _ | sort _ | sel _ => exact Nat.le_trans hle (h.upper m hm)
    | dedup =>
      -- without columns at most one row survives; otherwise as many as there were
      change (firstOcc tcols rows).length ≤ _ at hle
      show (firstOcc tcols rows).length ≤ m
      change (if tcols.isEmpty then _ else mx) = some m at hm
      by_cases hempty : tcols.isEmpty = true
      · rw [if_pos hempty] at hm
        have h1 := length_firstOcc_noCols tcols hempty rows
        cases mx with
        | none => cases hm; exact h1
        | some k =>
          by_cases hk : k ≥ 1
          · cases (if_pos hk).symm.trans hm; exact h1
          · cases (if_neg hk).symm.trans hm; exact Nat.le_trans hle (Nat.le_trans (h.upper k rfl) (Nat.not_lt.mp hk))
      · rw [if_neg hempty] at hm; exact Nat.le_trans hle (h.upper m hm)
    | slice s e =>
      show (sliceList s e rows).length ≤ m
      rw [length_sliceList]
      cases mx with
      | some k =>
        have := sliceLen_mono s e (h.upper k rfl)
        cases e <;> cases hm <;> exact this
      | none =>
        cases e with
        | none => cases hm
        | some e => cases hm; exact Nat.sub_le_sub_right (Nat.min_le_left _ _) s

/-- The same step at a chain: `Chain.applied_min_rows` / `applied_max_rows` add the bounds. -/
theorem MetaOK.chain {ls rs : List Row} {lc rc : Cols} {ln rn : Nat} {lx rx : Option Nat}
    (hl : MetaOK ls lc ln lx) (hr : MetaOK rs rc rn rx) (heq : ∀ t, t ∈ lc ↔ t ∈ rc) :
    MetaOK (ls ++ rs) lc (BOp.chainMinRows ln rn) (BOp.chainMaxRows lx rx) where
  keys x hx := (List.mem_append.mp hx).elim (hl.keys x) fun hx => (hr.keys x hx).congr fun t => (heq t).symm
  lower := by rw [List.length_append]; exact Nat.add_le_add hl.lower hr.lower
  upper m hm := by
    rw [List.length_append]
    cases lx <;> cases rx <;> cases hm
    exact Nat.add_le_add (hl.upper _ rfl) (hr.upper _ rfl)

/-- The same step at a join: no lower bound; the product as upper bound, 0 as soon as one side is known to be empty. -/
theorem MetaOK.join {ls rs : List Row} {lc rc : Cols} {ln rn : Nat} {lx rx : Option Nat}
    (hl : MetaOK ls lc ln lx) (hr : MetaOK rs rc rn rx) (c : Cols) (p : Pred) :
    MetaOK (joinRows c p ls rs) (lc.union rc) 0 (JoinOp.appliedMaxRows lx rx) where
  keys x hx := by
    obtain ⟨a, b, ha, hb, rfl⟩ := mem_joinRows _ _ _ _ _ hx
    exact (hl.keys a ha).merge (hr.keys b hb)
  lower := Nat.zero_le _
  upper m hm := by
    refine Nat.le_trans (length_joinRows_le c p ls rs) ?_
    unfold JoinOp.appliedMaxRows at hm
    split at hm
    · next hz =>
      rw [Bool.or_eq_true, beq_iff_eq, beq_iff_eq] at hz
      cases hm
      rcases hz with hz | hz
      · rw [Nat.le_zero.mp (hl.upper 0 hz), Nat.zero_mul]; exact Nat.le_refl 0
      · rw [Nat.le_zero.mp (hr.upper 0 hz), Nat.mul_zero]; exact Nat.le_refl 0
    · cases lx <;> cases rx <;> cases hm
      exact Nat.mul_le_mul (hl.upper _ rfl) (hr.upper _ rfl)

/-- **C06.** Columns and row bounds of every well-formed tree over truthful leaves are truthful. -/
theorem metadata_truthful (σ : Leaves) : (t : Rel) → t.WF → t.Truthful σ →
    MetaOK (sem σ t) t.columns t.minRows t.maxRows := by
  intro t
  induction t with
  | leaf => exact fun _ ht => ⟨ht.1, ht.2.1, ht.2.2⟩
  | unary op t cols ih =>
    rintro ⟨hwt, rfl, hop⟩ ht
    exact UOp.meta_ok op _ _ _ _ (ih hwt ht) hop
  | binary op l r cols ihl ihr =>
    rintro ⟨hwl, hwr, hop⟩ ht
    have ihl := ihl hwl ht.1
    have ihr := ihr hwr ht.2
    cases op with
    | chain => obtain ⟨rfl, heq⟩ := hop; exact ihl.chain ihr heq
    | join j => obtain ⟨rfl, _, _⟩ := hop; exact ihl.join ihr j.minCols j.pred
    | ignoreOne il => exact hop.elim
  | mat _ _ t ih | transfer _ _ t ih | select _ _ _ _ _ _ _ _ t _ ih => exact ih

theorem joinIdentity_sound (σ : Leaves) (t : Rel) (hwf : t.WF) (ht : t.Truthful σ)
    (h : t.isJoinIdentity = true) : sem σ t = [Row.empty] := by
  have m := metadata_truthful σ t hwf ht
  simp only [Rel.isJoinIdentity, Bool.and_eq_true, beq_iff_eq] at h
  obtain ⟨⟨hc, hmax⟩, hmin⟩ := h
  -- exactly one row, and it has no columns
  obtain ⟨r, hs⟩ := List.length_eq_one_iff.mp (Nat.le_antisymm (m.upper 1 hmax) (hmin ▸ m.lower))
  have hr := m.keys r (by rw [hs]; exact List.mem_singleton.mpr rfl)
  rw [Cols.eq_nil_of_isEmpty _ hc] at hr
  rw [hs]
  congr 1
  exact funext fun u => hr.none_of_not_mem u List.not_mem_nil

theorem maxRows_zero_sound (σ : Leaves) (t : Rel) (hwf : t.WF) (ht : t.Truthful σ)
    (h : t.maxRows = some 0) : sem σ t = [] :=
  List.eq_nil_of_length_eq_zero (Nat.le_zero.mp ((metadata_truthful σ t hwf ht).upper 0 h))

/-- The two metadata short-cuts as one test; `f` is told which of the two fired. -/
theorem ite_trivial {α : Type} (r : Rel) (f : Bool → α) (g : α) :
    (if r.isJoinIdentity = true then f true else if (r.maxRows == some 0) = true then f false else g) =
      if r.isTrivial = true then f r.isJoinIdentity else g := by
  unfold Rel.isTrivial
  cases r.isJoinIdentity <;> cases (r.maxRows == some 0) <;> rfl

theorem trivial_rows (σ : Leaves) (r : Rel) (hwf : r.WF) (htr : r.Truthful σ) (h : r.isTrivial = true) :
    sem σ r = if r.isJoinIdentity = true then [Row.empty] else [] := by
  by_cases hji : r.isJoinIdentity = true
  · rw [if_pos hji, joinIdentity_sound σ r hwf htr hji]
  · rw [if_neg hji]
    exact maxRows_zero_sound σ r hwf htr (beq_iff_eq.mp ((Bool.or_eq_true _ _ ▸ h).resolve_left hji))

end DafRel
