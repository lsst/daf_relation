/-
From `compile_sound` to the entry point `sqlRun` (conform, compile, evaluate).  `Rel.SqlReady` splits into a decidable
part (`Rel.structReady`, reported by the driver on every `sqlexec`) and the faithfulness of the payloads held by leaves
and processed markers, which the conformed tree inherits from the input tree (node invariant `payInv`; `domInv` does
the same for the hypothesis of `compile_total`).  `Rel.leavesIn` reduces the faithfulness of a tree to that of the
listed leaves, decidably; the non-vacuity example of C02 uses it.
-/
import DafRel.Lemmas.SqlCompile
import DafRel.Lemmas.SqlFactories

namespace DafRel

variable {I : NodeInv}

/-- Every leaf of the tree is one of the listed (id, columns) pairs, and no marker occurs. -/
def Rel.leavesIn (s : SqlState) (allowed : List (Nat × Cols)) : Rel → Bool
  | .leaf oid _ cols _ _ _ _ _ => allowed.any (fun a => a.1 == oid && a.2 == cols)
  | .unary _ t _ => Rel.leavesIn s allowed t
  | .binary _ l r _ => Rel.leavesIn s allowed l && Rel.leavesIn s allowed r
  | .mat .. => false
  | .transfer .. => false
  | .select oid _ _ _ _ _ skipTo _ _ => (s.payload oid).isNone && Rel.leavesIn s allowed skipTo

theorem faithful_of_leavesIn (s : SqlState) (tables : List (List Row)) (σ : Leaves) (allowed : List (Nat × Cols))
    (hall : ∀ a, a ∈ allowed → ∀ p, s.payload a.1 = some p → PaySem tables p (σ a.1) a.2) :
    (t : Rel) → t.leavesIn s allowed = true → t.Faithful s tables σ := by
  intro t h
  induction t with
  | leaf oid e cols nm mn mx pl ms =>
    obtain ⟨a, ha, h'⟩ := List.any_eq_true.mp h
    obtain ⟨h1, h2⟩ := Bool.and_eq_true_iff.mp h'
    rw [← eq_of_beq h1, ← eq_of_beq h2]
    exact hall a ha
  | unary op t c ih => exact ih h
  | binary op l r c ihl ihr =>
    have h' := Bool.and_eq_true_iff.mp h
    exact ⟨ihl h'.1, ihr h'.2⟩
  | mat | transfer => cases h
  | select oid so pr dd a b sk ic tg ih _ =>
    have h' := Bool.and_eq_true_iff.mp h
    exact ⟨fun own hown => (nomatch hown ▸ h'.1), fun _ => ih h'.2⟩

theorem ready_of_struct (s : SqlState) (tables : List (List Row)) (σ : Leaves) :
    (t : Rel) → t.structReady s = true → t.Faithful s tables σ → t.SqlReady s tables σ := by
  intro t hs hf
  induction t with
  | leaf | mat | transfer =>
    obtain ⟨p, hp⟩ := Option.isSome_iff_exists.mp hs
    exact ⟨p, hp, hf p hp⟩
  | unary op t c ih =>
    have h := Bool.and_eq_true_iff.mp hs
    -- the `match` on `op` in `Rel.structReady` is the body of `UOp.arityOk`
    exact ⟨ih h.1 hf, h.2⟩
  | binary op l r c ihl ihr =>
    have h := Bool.and_eq_true_iff.mp hs
    have h1 := Bool.and_eq_true_iff.mp h.1
    refine ⟨ihl h1.1 hf.1, ihr h1.2 hf.2, ?_⟩
    cases op with
    | join j => exact Bool.and_eq_true_iff.mp h.2
    | _ => trivial
  | select oid so pr dd a b sk ic tg ih _ =>
    cases hp : s.payload oid with
    | some own => exact Or.inr ⟨own, hp, hf.1 own hp⟩
    | none =>
      have h := Bool.and_eq_true_iff.mp ((Bool.or_eq_true_iff.mp hs).resolve_left (nomatch hp ▸ ·))
      have h1 := Bool.and_eq_true_iff.mp h.1
      exact Or.inl ⟨hp, ih h1.1 (hf.2 hp), fun t ht => List.all_eq_true.mp h1.2 t ht,
        fun hd => by subst hd; exact h.2⟩

theorem sqlRun_inr {s : SqlState} {st : Store} {r : Rel} {out : EvalOut} {b : Bool}
    (hrun : sqlRun s st r = .inr (out, b)) :
    ∃ c q n, conform st defaultFuel r = .ok c ∧ compileSelect s defaultFuel (c.get r) 0 = .ok (q, n) ∧
      q.hasDup = false ∧ out = Query.eval s.tables q := by
  revert hrun
  fun_cases sqlRun s st r with
  | case1 | case2 | case3 | case4 | case5 => nofun
  | case6 _ c hc q n hq hdup =>
    intro h; cases h
    exact ⟨c, q, n, hc, hq, Bool.eq_false_iff.mpr hdup, rfl⟩

theorem conformed_compiled_rows {fuel fuel' ctr : Nat} (σ : Leaves) (s : SqlState) (st : Store) (r : Rel) (c : Res)
    (q : Query) (n : Nat) (hg : Good I σ r) (hc : conform st fuel r = .ok c) (hsr : (c.get r).structReady s = true)
    (hfa : (c.get r).Faithful s s.tables σ) (hq : compileSelect s fuel' (c.get r) ctr = .ok (q, n))
    (hdup : q.hasDup = false) : (Query.eval s.tables q).rows = sem σ r := by
  obtain ⟨gc, cok⟩ := (treeBuild_sound σ st fuel).conform r c hg hc
  rw [(compile_sound σ s fuel').select (c.get r) ctr q n gc cok.ok.isSel
    (ready_of_struct s s.tables σ _ hsr hfa) hq hdup]
  exact cok.sem_eq

/-- `Engine.to_executable` followed by evaluation, for every Good tree (raw SQL trees, everything the factories
build): values, multiplicity and order of the direct evaluation. -/
theorem sqlRun_sound_good (σ : Leaves) (s : SqlState) (st : Store) (r : Rel) (out : EvalOut) (b : Bool)
    (hg : Good I σ r)
    (hready : ∀ c, conform st defaultFuel r = .ok c →
      (c.get r).structReady s = true ∧ (c.get r).Faithful s s.tables σ)
    (hrun : sqlRun s st r = .inr (out, b)) : out.rows = sem σ r := by
  obtain ⟨c, q, n, hc, hq, hdup, rfl⟩ := sqlRun_inr hrun
  exact conformed_compiled_rows σ s st r c q n hg hc (hready c hc).1 (hready c hc).2 hq hdup

/-- The node invariant "the payload this node holds (if any) stands for its rows": carried through the tree-building
induction, it makes the conformed tree faithful whenever the input is; a freshly created Select (id 0) holds no
payload. -/
def payInv (s : SqlState) (tables : List (List Row)) (σ : Leaves) (h0 : s.payload 0 = none) : NodeInv where
  atom := fun x => x.isAtom = true → x.Faithful s tables σ
  sel := fun S => ∀ own, s.payload S.oid = some own → PaySem tables own (sem σ S) S.columns
  selNew := fun S hS own hown => by rw [hS, h0] at hown; cases hown

theorem Good.faithful {s : SqlState} {tables : List (List Row)} {σ : Leaves} {h0 : s.payload 0 = none} {t : Rel}
    (h : Good (payInv s tables σ h0) σ t) : t.Faithful s tables σ := by
  induction h with
  | atom r ha _ _ _ hI => exact hI ha
  | unary op t c _ _ ih => exact ih
  | chain l r c _ _ _ ihl ihr => exact ⟨ihl, ihr⟩
  | join j l r c _ _ _ _ _ ihl ihr => exact ⟨ihl, ihr⟩
  | sel S hS _ _ hI _ ih =>
    obtain ⟨oid, so, pr, dd, a, b, sk, ic, tg, rfl⟩ := Rel.isSelect_inv hS.isSel
    exact ⟨hI, fun _ => ih⟩

theorem atomsOK_of_faithful (s : SqlState) (tables : List (List Row)) (σ : Leaves) (h0 : s.payload 0 = none) :
    (t : Rel) → t.RawSql → t.Faithful s tables σ → t.AtomsOK (payInv s tables σ h0) :=
  atomsOK_of_rec _ (·.Faithful s tables σ) (fun _ _ h _ => h) (fun _ _ _ h => h) (fun _ _ _ _ h => h)

/-- An atom without a payload has nothing to stand for: how a freshly allocated atom (id 0) meets `payInv`. -/
theorem faithful_of_payload_none (s : SqlState) (tables : List (List Row)) (σ : Leaves) (x : Rel)
    (ha : x.isAtom = true) (hx : s.payload x.oid = none) : x.Faithful s tables σ := by
  cases x with
  | leaf | mat | transfer => exact fun _ hp => nomatch hx.symm.trans hp
  | unary | binary | select => cases ha

/-- Under `payInv` only the decidable check is asked of the conformed tree. -/
theorem sqlRun_sound_payInv (σ : Leaves) (s : SqlState) (st : Store) (r : Rel) (out : EvalOut) (b : Bool)
    (h0 : s.payload 0 = none) (hg : Good (payInv s s.tables σ h0) σ r)
    (hready : ∀ c, conform st defaultFuel r = .ok c → (c.get r).structReady s = true)
    (hrun : sqlRun s st r = .inr (out, b)) : out.rows = sem σ r :=
  sqlRun_sound_good σ s st r out b hg (fun c hc =>
    ⟨hready c hc, ((treeBuild_sound σ st defaultFuel).conform r c hg hc).1.faithful⟩) hrun

/-- The same for totality (C08): "the payload this node holds (if any) exposes its columns". -/
def domInv (s : SqlState) (h0 : s.payload 0 = none) : NodeInv where
  atom := fun x => x.isAtom = true → x.PayReady s
  sel := fun S => ∀ own, s.payload S.oid = some own → PayDom own S.columns
  selNew := fun S hS own hown => by rw [hS, h0] at hown; cases hown

theorem Good.payReady {s : SqlState} {σ : Leaves} {h0 : s.payload 0 = none} {t : Rel}
    (h : Good (domInv s h0) σ t) (hj : t.joinsResolved = true) : t.PayReady s := by
  induction h with
  | atom r ha _ _ _ hI => exact hI ha
  | unary op t c _ _ ih => exact ih hj
  | chain l r c _ _ _ ihl ihr =>
    have h := Bool.and_eq_true_iff.mp (Bool.and_eq_true_iff.mp hj).1
    exact ⟨ihl h.1, ihr h.2, trivial⟩
  | join j l r c _ _ _ _ _ ihl ihr =>
    have h := Bool.and_eq_true_iff.mp hj
    have h1 := Bool.and_eq_true_iff.mp h.1
    exact ⟨ihl h1.1, ihr h1.2, h.2⟩
  | sel S hS _ _ hI _ ih =>
    obtain ⟨oid, so, pr, dd, a, b, sk, ic, tg, rfl⟩ := Rel.isSelect_inv hS.isSel
    cases hp : s.payload oid with
    | none => exact Or.inl ⟨hp, ih hj⟩
    | some own => exact Or.inr ⟨own, hp, hI own hp⟩

theorem atomsOK_of_payReady (s : SqlState) (h0 : s.payload 0 = none) :
    (t : Rel) → t.RawSql → t.PayReady s → t.AtomsOK (domInv s h0) :=
  atomsOK_of_rec _ (·.PayReady s) (fun _ _ h _ => h) (fun _ _ _ h => h) (fun _ _ _ _ h => ⟨h.1, h.2.1⟩)

/-- What conform returns for a Good tree compiles, with any budget that covers its height: it is a Good Select, so it
has the shape `to_payload` handles. -/
theorem conformed_compiles {fuel fuel' ctr : Nat} (σ : Leaves) (s : SqlState) (st : Store) (r : Rel) (c : Res)
    (hg : Good I σ r) (hc : conform st fuel r = .ok c) (hrd : (c.get r).PayReady s)
    (hh : (c.get r).height ≤ fuel' + 1) : ∃ q n, compileSelect s fuel' (c.get r) ctr = .ok (q, n) := by
  obtain ⟨gc, cok⟩ := (treeBuild_sound σ st fuel).conform r c hg hc
  exact (compile_total σ s fuel').select _ ctr gc cok.ok.isSel hrd (gc.compOK cok.ok.isSel false) hh

end DafRel
