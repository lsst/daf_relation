/-
What one step of `to_payload` / `_select_to_executable` does, case by case: `f … = .ok r ↔ (the sub-calls
succeeded and r is built from their results)`.  Soundness reads these left to right, totality right to left.  Beside
the equivalences: `toPayload_held` is an equation (a payload that is held is returned as it is), and
`toPayload_unary_inv` / `toPayload_binary_inv` say which operations `to_payload` accepts at all.
-/
import DafRel.Lemmas.SqlSelectSem

namespace DafRel

variable {s : SqlState} {fuel ctr c : Nat} {p : SqlPayload} {q : Query}

theorem toPayload_held {r : Rel} {p0 : SqlPayload} (h : r.payloadSql s = some p0) :
    toPayload s (fuel+1) r ctr = .ok (p0, ctr) := by
  unfold toPayload; simp only [h]

theorem toPayload_calc {tag : Tag} {e : Expr} {t : Rel} {cc : Cols} :
    toPayload s (fuel+1) (.unary (.calc tag e) t cc) ctr = .ok (p, c) ↔
      ∃ p0 x, toPayload s fuel t ctr = .ok (p0, c) ∧ convExpr p0.avail e = .ok x ∧
        p = { p0 with avail := availSet p0.avail tag x } := by
  -- `F` hides the recursive call on the right, so that `unfold` opens the outer step only; `hF` then folds the calls
  -- in the unfolded body to `F` as well (the same in `toPayload_sel`, `toPayload_join` and `compileSelect_chain`)
  generalize hF : toPayload s fuel = F
  unfold toPayload
  simp only [Rel.payloadSql, hF]
  constructor
  · intro h
    split at h; · cases h
    rename_i p0 c1 h0
    split at h; · cases h
    rename_i x hx
    cases h
    exact ⟨p0, x, h0, hx, rfl⟩
  · rintro ⟨p0, x, h0, hx, rfl⟩
    simp only [h0, hx]

theorem toPayload_sel {pr : Pred} {t : Rel} {cc : Cols} :
    toPayload s (fuel+1) (.unary (.sel pr) t cc) ctr = .ok (p, c) ↔
      ∃ p0 ws, toPayload s fuel t ctr = .ok (p0, c) ∧ convFlattened p0.avail pr = .ok ws ∧
        p = { p0 with wh := p0.wh ++ ws } := by
  generalize hF : toPayload s fuel = F
  unfold toPayload
  simp only [Rel.payloadSql, hF]
  constructor
  · intro h
    split at h; · cases h
    rename_i p0 c1 h0
    split at h; · cases h
    rename_i x hx
    cases h
    exact ⟨p0, x, h0, hx, rfl⟩
  · rintro ⟨p0, x, h0, hx, rfl⟩
    simp only [h0, hx]

theorem toPayload_join {j : JoinOp} {l r : Rel} {cc : Cols} (hj : j.resolved = true) :
    toPayload s (fuel+1) (.binary (.join j) l r cc) ctr = .ok (p, c) ↔
      ∃ pl c1 pr oc ex, toPayload s fuel l ctr = .ok (pl, c1) ∧ toPayload s fuel r c1 = .ok (pr, c) ∧
        j.minCols.mapM (onCommonTerm pl.avail pr.avail) = some oc ∧
        joinExtra (availMerge pl.avail pr.avail) j.pred = .ok ex ∧
        p = { frm := .join pl.frm pr.frm (oc ++ ex), wh := pl.wh ++ pr.wh, avail := availMerge pl.avail pr.avail } := by
  generalize hF : toPayload s fuel = F
  unfold toPayload
  simp only [Rel.payloadSql, JoinOp.commonColumns, hj, if_true, hF]
  constructor
  · intro h
    split at h; · cases h
    rename_i pl c1 h1
    split at h; · cases h
    rename_i pr c2 h2
    split at h; · cases h
    rename_i oc hoc
    split at h; · cases h
    rename_i ex hex
    cases h
    exact ⟨pl, c1, pr, oc, ex, h1, h2, hoc, hex, rfl⟩
  · rintro ⟨pl, c1, pr, oc, ex, h1, h2, hoc, hex, rfl⟩
    simp only [h1, h2, hoc, hex]

theorem toPayload_unary_inv {op : UOp} {t : Rel} {cc : Cols}
    (h : toPayload s (fuel+1) (.unary op t cc) ctr = .ok (p, c)) : op.belowSlots = true := by
  cases op with
  | «calc» | sel => rfl
  | _ => unfold toPayload at h; simp [Rel.payloadSql] at h

theorem toPayload_binary_inv {op : BOp} {l r : Rel} {cc : Cols}
    (h : toPayload s (fuel+1) (.binary op l r cc) ctr = .ok (p, c)) : ∃ j, op = .join j := by
  cases op with
  | join j => exact ⟨j, rfl⟩
  | _ => unfold toPayload at h; simp [Rel.payloadSql] at h

section select
variable {oid : Nat} {so : List SortTerm} {pr : Option Cols} {dd : Bool} {a : Nat} {b : Option Nat}
  {sk : Rel} {ic : Bool} {tg : Rel}

theorem toPayload_select (hn : s.payload oid = none) :
    toPayload s (fuel+1) (.select oid so pr dd a b sk ic tg) ctr = .ok (p, c) ↔
      ∃ q c1, compileSelect s fuel (.select oid so pr dd a b sk ic tg) ctr = .ok (q, c1) ∧ c = c1 + 1 ∧
        p = { frm := .subquery s!"anon_{c1 + 1}" q,
              avail := subAvail s!"anon_{c1 + 1}" (Rel.select oid so pr dd a b sk ic tg).columns } := by
  unfold toPayload
  simp only [Rel.payloadSql, Rel.oid, hn]
  constructor
  · intro h
    split at h; · cases h
    rename_i q c1 hq
    cases h
    exact ⟨q, c1, hq, rfl, rfl⟩
  · rintro ⟨q, c1, hq, rfl, rfl⟩
    simp only [hq]

theorem compileSelect_own {own : SqlPayload} (ho : s.payload oid = some own) :
    compileSelect s (fuel+1) (.select oid so pr dd a b sk ic tg) ctr = .ok (q, c) ↔
      ∃ items, lookupItems own.avail tg.columns = some items ∧
        q = .select (dedupItems items) own.frm own.wh false [] 0 none ∧ c = ctr := by
  unfold compileSelect
  simp only [ho]
  constructor
  · intro h
    split at h; · cases h
    rename_i items hit
    cases h
    exact ⟨items, hit, rfl, rfl⟩
  · rintro ⟨items, hit, rfl, rfl⟩
    simp only [hit]

theorem compileSelect_chain {l r : Rel} {cc : Cols} (hn : s.payload oid = none)
    (hl : l.isSelect = true) (hr : r.isSelect = true) :
    compileSelect s (fuel+1) (.select oid so pr dd a b (.binary .chain l r cc) ic tg) ctr = .ok (q, c) ↔
      ∃ ql c1 qr ob, compileSelect s fuel l ctr = .ok (ql, c1) ∧ compileSelect s fuel r c1 = .ok (qr, c) ∧
        orderByOf (subAvail "" (Rel.binary .chain l r cc).columns) so = .ok ob ∧
        q = .compound (!dd) ql qr (Rel.binary .chain l r cc).columns ob a (b.map (· - a)) := by
  obtain ⟨_, _, _, _, _, _, _, _, _, rfl⟩ := Rel.isSelect_inv hl
  obtain ⟨_, _, _, _, _, _, _, _, _, rfl⟩ := Rel.isSelect_inv hr
  generalize hF : compileSelect s fuel = F
  unfold compileSelect
  simp only [hn, hF]
  constructor
  · intro h
    split at h; · cases h
    rename_i ql c1 hl
    split at h; · cases h
    rename_i qr c2 hr
    split at h; · cases h
    rename_i ob hob
    cases h
    exact ⟨ql, c1, qr, ob, hl, hr, hob, rfl⟩
  · rintro ⟨ql, c1, qr, ob, h1, h2, hob, rfl⟩
    simp only [h1, h2, hob]

theorem compileSelect_level (hn : s.payload oid = none) (hsk : isChain sk = false) :
    compileSelect s (fuel+1) (.select oid so pr dd a b sk ic tg) ctr = .ok (q, c) ↔
      ∃ p items ob,
        (sk.payloadSql s = some p ∧ c = ctr ∨ sk.payloadSql s = none ∧ toPayload s fuel sk ctr = .ok (p, c)) ∧
        lookupItems p.avail tg.columns = some items ∧ orderByOf p.avail so = .ok ob ∧
        q = .select (dedupItems items) p.frm p.wh dd ob a (b.map (· - a)) := by
  have hsk : ∀ l r cc, sk ≠ .binary .chain l r cc := fun l r cc e => by rw [e] at hsk; cases hsk
  unfold compileSelect
  simp only [hn]
  constructor
  · intro h
    split at h; · cases h
    rename_i _ p c1 hp
    split at h; · cases h
    rename_i _ items hit
    split at h; · cases h
    rename_i ob hob
    cases h
    refine ⟨p, items, ob, ?_, hit, hob, rfl⟩
    split at hp
    · rename_i hps; cases hp; exact Or.inl ⟨hps, rfl⟩
    · rename_i hps; exact Or.inr ⟨hps, hp⟩
  · rintro ⟨p, items, ob, ⟨hps, rfl⟩ | ⟨hps, hp⟩, hit, hob, rfl⟩
    · simp only [hps, hit, hob]
    · simp only [hps, hp, hit, hob]

end select

end DafRel
