/-
The stable insertion sort `isort`: the specification of "a stable sort" and the model of Python's `list.sort`.
Two theorems organise the file.  For total preorders `A`, `B`

    isort A (isort B l) = isort (lexOf A B) l

(sorting by the minor key and then stably by the major key is sorting by the lexicographic order).  And `isort`
commutes with a `flatMap` whose blocks compare like the elements they come from (`isort_flatMap`): this is what moves
a join whose target is the outer operand of the nested loop upstream of a Sort (C04, `PartialJoin.commute`), and
`filter` is the instance with blocks of at most one element.
-/
import DafRel.Model.Sem

namespace DafRel

variable {α β : Type}

def Total (le : α → α → Bool) : Prop := ∀ a b, le a b = true ∨ le b a = true
def Trans (le : α → α → Bool) : Prop := ∀ a b c, le a b = true → le b c = true → le a c = true

theorem Total.refl {le : α → α → Bool} (ht : Total le) (a : α) : le a a = true := (ht a a).elim id id

/-- Lexicographic combination: `A` is the major order, `B` breaks `A`-ties. -/
def lexOf (A B : α → α → Bool) : α → α → Bool := fun a b => A a b && (!(A b a) || B a b)

theorem lexOf_total {A B : α → α → Bool} (hA : Total A) (hB : Total B) : Total (lexOf A B) := by
  intro a b
  unfold lexOf
  cases hab : A a b <;> cases hba : A b a
  · exact absurd (hA a b) (by simp [hab, hba])
  · exact Or.inr rfl
  · exact Or.inl rfl
  · simpa using hB a b

/-- `A`-ties at the ends of a chain `a ≤ b ≤ c` are ties throughout, so the `B`-links compose.
Totality of `A` is not needed. -/
theorem lexOf_trans {A B : α → α → Bool} (tA : Trans A) (tB : Trans B) : Trans (lexOf A B) := by
  intro a b c h1 h2
  simp only [lexOf, Bool.and_eq_true, Bool.or_eq_true, Bool.not_eq_true'] at *
  refine ⟨tA _ _ _ h1.1 h2.1, ?_⟩
  cases hca : A c a with
  | false => exact Or.inl rfl
  | true =>
    have hba : A b a = true := tA _ _ _ h2.1 hca
    have hcb : A c b = true := tA _ _ _ hca h1.1
    refine Or.inr (tB _ _ _ (h1.2.resolve_left ?_) (h2.2.resolve_left ?_)) <;> simp [hba, hcb]

theorem insertSorted_cons (le : α → α → Bool) (x y : α) (ys : List α) :
    insertSorted le x (y :: ys) = if le x y = true then x :: y :: ys else y :: insertSorted le x ys := rfl

theorem insertSorted_perm (le : α → α → Bool) (x : α) (l : List α) :
    List.Perm (insertSorted le x l) (x :: l) := by
  induction l with
  | nil => exact List.Perm.refl _
  | cons y ys ih =>
    unfold insertSorted
    split
    · exact List.Perm.refl _
    · exact (List.Perm.cons y ih).trans (List.Perm.swap x y ys)

theorem isort_perm (le : α → α → Bool) (l : List α) : List.Perm (isort le l) l := by
  induction l with
  | nil => exact List.Perm.refl _
  | cons x xs ih =>
    unfold isort
    exact (insertSorted_perm le x _).trans (List.Perm.cons x ih)

theorem mem_insertSorted (le : α → α → Bool) (x z : α) (l : List α) :
    z ∈ insertSorted le x l ↔ z = x ∨ z ∈ l :=
  (insertSorted_perm le x l).mem_iff.trans List.mem_cons

theorem mem_isort (le : α → α → Bool) (z : α) (l : List α) : z ∈ isort le l ↔ z ∈ l :=
  (isort_perm le l).mem_iff

theorem length_isort (le : α → α → Bool) (l : List α) : (isort le l).length = l.length :=
  (isort_perm le l).length_eq

/-- Sortedness: every element is `le` every later element. -/
def Sorted (le : α → α → Bool) (l : List α) : Prop := l.Pairwise (fun a b => le a b = true)

theorem sorted_insertSorted {le : α → α → Bool} (ht : Total le) (tr : Trans le) (x : α)
    (l : List α) (h : Sorted le l) : Sorted le (insertSorted le x l) := by
  induction l with
  | nil => simp [insertSorted, Sorted]
  | cons y ys ih =>
    obtain ⟨hy, hys⟩ := List.pairwise_cons.mp h
    rw [insertSorted_cons]
    split
    · next hxy =>
      exact List.pairwise_cons.mpr
        ⟨fun z hz => (List.mem_cons.mp hz).elim (· ▸ hxy) fun hz => tr _ _ _ hxy (hy z hz), h⟩
    · next hxy =>
      refine List.pairwise_cons.mpr ⟨fun z hz => ?_, ih hys⟩
      rcases (mem_insertSorted le x z ys).mp hz with rfl | hz
      · exact (ht z y).resolve_left hxy
      · exact hy z hz

theorem sorted_isort {le : α → α → Bool} (ht : Total le) (tr : Trans le) (l : List α) :
    Sorted le (isort le l) := by
  induction l with
  | nil => simp [isort, Sorted]
  | cons y ys ih => exact sorted_insertSorted ht tr y _ ih

theorem insertSorted_map (g : α → β) (le : β → β → Bool) (le' : α → α → Bool) (x : α) (l : List α)
    (h : ∀ b, b ∈ l → le (g x) (g b) = le' x b) :
    insertSorted le (g x) (l.map g) = (insertSorted le' x l).map g := by
  induction l with
  | nil => rfl
  | cons y ys ih =>
    simp only [List.map_cons, insertSorted, h y (by simp)]
    split
    · rfl
    · rw [List.map_cons, ih fun b hb => h b (by simp [hb])]

theorem isort_map (g : α → β) (le : β → β → Bool) (le' : α → α → Bool) (l : List α)
    (h : ∀ a b, a ∈ l → b ∈ l → le (g a) (g b) = le' a b) :
    isort le (l.map g) = (isort le' l).map g := by
  induction l with
  | nil => rfl
  | cons y ys ih =>
    simp only [List.map_cons, isort]
    rw [ih (fun a b ha hb => h a b (by simp [ha]) (by simp [hb]))]
    apply insertSorted_map
    intro b hb
    exact h y b (by simp) (by simp [(mem_isort le' b ys).mp hb])

theorem insertSorted_congr (le1 le2 : α → α → Bool) (x : α) (l : List α)
    (h : ∀ z, z ∈ l → le1 x z = le2 x z) : insertSorted le1 x l = insertSorted le2 x l := by
  simpa using insertSorted_map id le1 le2 x l h

theorem isort_congr (le1 le2 : α → α → Bool) (l : List α)
    (h : ∀ a b, a ∈ l → b ∈ l → le1 a b = le2 a b) : isort le1 l = isort le2 l := by
  simpa using isort_map id le1 le2 l h

theorem insertSorted_of_le_all (le : α → α → Bool) (x : α) (l : List α)
    (h : ∀ z, z ∈ l → le x z = true) : insertSorted le x l = x :: l := by
  cases l with
  | nil => rfl
  | cons y ys => simp [insertSorted, h y (by simp)]

theorem isort_of_sorted {le : α → α → Bool} (l : List α) (h : Sorted le l) : isort le l = l := by
  induction l with
  | nil => rfl
  | cons y ys ih =>
    obtain ⟨hy, hys⟩ := List.pairwise_cons.mp h
    rw [isort, ih hys, insertSorted_of_le_all le y ys hy]

/-- Inserts of `x` strictly below `y` commute, on any list: up to the first `z` with `x ≤ z`
neither insert stops (`y ≤ z` would give `y ≤ z ≤ x`), and from there on `x` stays in front. -/
theorem insertSorted_comm_lt {le : α → α → Bool} (ht : Total le) (tr : Trans le) {x y : α}
    (hxy : le x y = true) (hyx : le y x = false) (l : List α) :
    insertSorted le y (insertSorted le x l) = insertSorted le x (insertSorted le y l) := by
  induction l with
  | nil => simp [insertSorted, hxy, hyx]
  | cons z zs ih =>
    cases hxz : le x z with
    | true => cases hyz : le y z <;> simp [insertSorted, hxy, hyx, hxz, hyz]
    | false =>
      have hyz : le y z = false := by
        cases hyz : le y z with
        | false => rfl
        | true => rw [← hyx, tr y z x hyz ((ht x z).resolve_left (by simp [hxz]))]
      simp [insertSorted, hxz, hyz, ih]

theorem insertSorted_comm {le : α → α → Bool} (ht : Total le) (tr : Trans le) (x y : α)
    (hne : ¬ (le x y = true ∧ le y x = true)) (l : List α) :
    insertSorted le y (insertSorted le x l) = insertSorted le x (insertSorted le y l) := by
  cases hxy : le x y with
  | false =>
    exact (insertSorted_comm_lt ht tr ((ht x y).resolve_left (by simp [hxy])) hxy l).symm
  | true =>
    cases hyx : le y x with
    | false => exact insertSorted_comm_lt ht tr hxy hyx l
    | true => exact absurd ⟨hxy, hyx⟩ hne

theorem insertSorted_lexOf (A : α → α → Bool) {B : α → α → Bool} {y : α} {l : List α}
    (h : ∀ z, z ∈ l → B y z = true) : insertSorted (lexOf A B) y l = insertSorted A y l :=
  insertSorted_congr _ _ y l fun z hz => by simp [lexOf, h z hz]

theorem isort_insertSorted_lex {A B : α → α → Bool} (hA : Total A) (tA : Trans A) (hB : Total B)
    (tB : Trans B) (x : α) (m : List α) (hm : Sorted B m) :
    isort A (insertSorted B x m) = insertSorted (lexOf A B) x (isort A m) := by
  induction m with
  | nil => rfl
  | cons y ys ih =>
    obtain ⟨hy, hys⟩ := List.pairwise_cons.mp hm
    rw [insertSorted_cons]
    split
    · next hxy =>
      -- `x` is `B`-below everything
      refine (insertSorted_lexOf A fun z hz => ?_).symm
      rcases List.mem_cons.mp ((mem_isort A z _).mp hz) with rfl | hz
      · exact hxy
      · exact tB _ _ _ hxy (hy z hz)
    · next hxy =>
      -- `y` is `B`-below `x` and everything in `ys`, and not `B`-above `x`: both inserts are
      -- lexicographic inserts of elements that are not equivalent, and those commute
      have hyx : B y x = true := (hB x y).resolve_left hxy
      have hy' : ∀ z, z ∈ isort A ys → B y z = true := fun z hz => hy z ((mem_isort A z ys).mp hz)
      show insertSorted A y (isort A (insertSorted B x ys)) =
        insertSorted (lexOf A B) x (insertSorted A y (isort A ys))
      rw [ih hys, ← insertSorted_lexOf A hy', ← insertSorted_lexOf A (l := insertSorted _ x _)]
      · refine insertSorted_comm (lexOf_total hA hB) (lexOf_trans tA tB) x y (fun ⟨h1, h2⟩ => ?_) _
        simp only [lexOf, Bool.and_eq_true, Bool.or_eq_true, Bool.not_eq_true'] at h1 h2
        rcases h1.2 with h | h
        · rw [h] at h2; exact absurd h2.1 (by simp)
        · exact hxy h
      · intro z hz
        rcases (mem_insertSorted _ x z _).mp hz with rfl | hz
        · exact hyx
        · exact hy' z hz

theorem isort_isort_lex {A B : α → α → Bool} (hA : Total A) (tA : Trans A) (hB : Total B)
    (tB : Trans B) (l : List α) : isort A (isort B l) = isort (lexOf A B) l := by
  induction l with
  | nil => rfl
  | cons x xs ih =>
    simp only [isort]
    rw [isort_insertSorted_lex hA tA hB tB x _ (sorted_isort hB tB xs), ih]

theorem insertSorted_skip (le : α → α → Bool) (x : α) (ys rest : List α) (h : ∀ y, y ∈ ys → le x y = false) :
    insertSorted le x (ys ++ rest) = ys ++ insertSorted le x rest := by
  induction ys with
  | nil => rfl
  | cons y ys ih =>
    have hy : le x y = false := h y (by simp)
    have := ih (fun z hz => h z (by simp [hz]))
    simp [insertSorted, hy, this]

theorem foldr_insert_skip (le : α → α → Bool) (xs ys rest : List α)
    (h : ∀ x, x ∈ xs → ∀ y, y ∈ ys → le x y = false) :
    xs.foldr (insertSorted le) (ys ++ rest) = ys ++ xs.foldr (insertSorted le) rest := by
  induction xs with
  | nil => rfl
  | cons x xs ih =>
    simp only [List.foldr_cons]
    rw [ih (fun z hz => h z (by simp [hz]))]
    exact insertSorted_skip le x ys _ (h x (by simp))

theorem foldr_insert_front (le : α → α → Bool) (xs L : List α)
    (hxx : ∀ x, x ∈ xs → ∀ y, y ∈ xs → le x y = true) (hxL : ∀ x, x ∈ xs → ∀ y, y ∈ L → le x y = true) :
    xs.foldr (insertSorted le) L = xs ++ L := by
  induction xs with
  | nil => rfl
  | cons x xs ih =>
    simp only [List.foldr_cons]
    rw [ih (fun a ha b hb => hxx a (by simp [ha]) b (by simp [hb])) (fun a ha b hb => hxL a (by simp [ha]) b hb)]
    apply insertSorted_of_le_all
    intro z hz
    rcases List.mem_append.mp hz with hz | hz
    · exact hxx x (by simp) z (by simp [hz])
    · exact hxL x (by simp) z hz

theorem isort_append (le : α → α → Bool) (xs ys : List α) :
    isort le (xs ++ ys) = xs.foldr (insertSorted le) (isort le ys) := by
  induction xs with
  | nil => rfl
  | cons x xs ih => simp [isort, ih]

/-- Inserting the block of `a` into the expansion of a sorted list = expanding the list with `a` inserted
(`L` is any list that holds `a` and `S`: the blocks compare like the elements they come from on it). -/
theorem insert_block (le : β → β → Bool) (le' : α → α → Bool) (g : α → List β) (ht : Total le') (tr : Trans le')
    (a : α) (L : List α) (ha : a ∈ L)
    (hkey : ∀ u v, u ∈ L → v ∈ L → ∀ x y, x ∈ g u → y ∈ g v → le x y = le' u v)
    (S : List α) (hS : Sorted le' S) (hL : ∀ u, u ∈ S → u ∈ L) :
    (g a).foldr (insertSorted le) (S.flatMap g) = (insertSorted le' a S).flatMap g := by
  -- `a` below all of `T`: the whole block of `a` goes in front
  have front (T : List α) (h : ∀ c, c ∈ T → c ∈ L ∧ le' a c = true) :
      (g a).foldr (insertSorted le) (T.flatMap g) = (a :: T).flatMap g :=
    foldr_insert_front le (g a) _ (fun x hx y hy => by rw [hkey a a ha ha x y hx hy]; exact ht.refl a)
      fun x hx y hy => by
        obtain ⟨c, hc, hyc⟩ := List.mem_flatMap.mp hy
        rw [hkey a c ha (h c hc).1 x y hx hyc, (h c hc).2]
  induction S with
  | nil => exact front [] nofun
  | cons b S' ih =>
    obtain ⟨hbS, hS'⟩ := List.pairwise_cons.mp hS
    rw [insertSorted_cons]
    split
    · next hab =>
      exact front _ fun c hc => ⟨hL c hc, (List.mem_cons.mp hc).elim (· ▸ hab) fun hc' => tr a b c hab (hbS c hc')⟩
    · next hab =>
      -- the block of `a` passes the block of `b`
      rw [List.flatMap_cons, List.flatMap_cons, foldr_insert_skip le (g a) (g b) _
        fun x hx y hy => by rw [hkey a b ha (hL b List.mem_cons_self) x y hx hy]; exact Bool.eq_false_iff.mpr hab]
      exact congrArg _ (ih hS' fun u hu => hL u (List.mem_cons_of_mem _ hu))

theorem isort_flatMap (le : β → β → Bool) (le' : α → α → Bool) (g : α → List β) (ht : Total le') (tr : Trans le') :
    (l : List α) → (∀ u v, u ∈ l → v ∈ l → ∀ x y, x ∈ g u → y ∈ g v → le x y = le' u v) →
    isort le (l.flatMap g) = (isort le' l).flatMap g := by
  intro l hkey
  induction l with
  | nil => rfl
  | cons a l' ih =>
    rw [List.flatMap_cons, isort, isort_append,
      ih fun u v hu hv => hkey u v (List.mem_cons_of_mem _ hu) (List.mem_cons_of_mem _ hv)]
    exact insert_block le le' g ht tr a (a :: l') List.mem_cons_self hkey _ (sorted_isort ht tr l')
      fun u hu => List.mem_cons_of_mem _ ((mem_isort le' u l').mp hu)

theorem flatMap_congr_mem {l : List α} {f g : α → List β} (h : ∀ a, a ∈ l → f a = g a) :
    l.flatMap f = l.flatMap g := by
  rw [List.flatMap_def, List.flatMap_def, List.map_congr_left h]

theorem perm_flatMap_left (l : List α) (f g : α → List β) (h : ∀ a, a ∈ l → List.Perm (f a) (g a)) :
    List.Perm (l.flatMap f) (l.flatMap g) := by
  induction l with
  | nil => exact List.Perm.refl _
  | cons a l ih =>
    simp only [List.flatMap_cons]
    exact List.Perm.append (h a (by simp)) (ih (fun b hb => h b (by simp [hb])))

theorem map_filter_congr {l : List α} {p q : α → Bool} {f g : α → β} (hp : ∀ a, a ∈ l → p a = q a)
    (hf : ∀ a, a ∈ l → q a = true → f a = g a) : (l.filter p).map f = (l.filter q).map g := by
  rw [List.filter_congr hp]
  exact List.map_congr_left fun a ha => hf a (List.mem_filter.mp ha).1 (List.mem_filter.mp ha).2

theorem flatMap_filter_if (p : α → Bool) (g : α → List β) (l : List α) :
    (l.filter p).flatMap g = l.flatMap (fun a => if p a then g a else []) := by
  induction l with
  | nil => rfl
  | cons a l ih => rw [List.filter_cons]; split <;> simp [*]

theorem filter_eq_flatMap (p : α → Bool) (l : List α) :
    l.filter p = l.flatMap fun a => if p a then [a] else [] := by
  rw [← flatMap_filter_if, List.flatMap_singleton']

theorem filter_isort {le : α → α → Bool} (ht : Total le) (tr : Trans le) (p : α → Bool) (l : List α) :
    (isort le l).filter p = isort le (l.filter p) := by
  -- the block of `u` holds at most `u`
  have one {u a : α} (h : a ∈ if p u = true then [u] else []) : a = u := by
    split at h
    · exact List.mem_singleton.mp h
    · cases h
  rw [filter_eq_flatMap, filter_eq_flatMap, isort_flatMap le le _ ht tr l
    fun u v _ _ a b ha hb => by rw [one ha, one hb]]

end DafRel
