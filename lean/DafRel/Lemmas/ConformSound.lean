/-
Soundness of the SQL engine's tree building on `Good` trees: `conform`, `append_unary`,
`_append_unary_to_select` (with its recursive projection push-down into the branches of a UNION) and
`_append_binary_to_select` preserve rows and columns and return coherent `Select` markers.  One induction over
the recursion budget of the mutual block (`TreeBuildOK`, its step `treeBuild_succ`, `treeBuild_sound`); the binary
cases need no induction hypothesis beyond `conform` of the operands.  `PJoin.lhs` and `PJoin.rhs`, the operands of a
partial join in their order, are defined in Lemmas/JoinCommon.lean.
-/
import DafRel.Lemmas.SelectSound
import DafRel.Lemmas.JoinSound
import DafRel.Lemmas.JoinCommon

namespace DafRel

variable {I : NodeInv}

theorem Rel.RawSql.engine : (t : Rel) → t.RawSql → t.engine.kind = .sql := by
  intro t h
  induction t with
  | leaf | mat | transfer => exact h
  | unary _ _ _ ih => exact ih h
  | binary _ _ _ _ ihl => exact ihl h.1
  | select => cases h

theorem raw_goodI (σ : Leaves) (t : Rel) (hw : t.WF) (ht : t.Truthful σ) (hr : t.RawSql) (ha : t.AtomsOK I) :
    Good I σ t := by
  induction t with
  | leaf | mat | transfer => exact Good.atom _ rfl hw ht hr ha
  | unary op t c ih => exact Good.unary op t c (ih hw.1 ht hr ha) hw
  | binary op l r c ihl ihr =>
    obtain ⟨h1, h2, h3⟩ := hr
    have gl := ihl hw.1 ht.1 h1 ha.1
    have gr := ihr hw.2.1 ht.2 h2 ha.2
    cases op with
    | chain => exact Good.chain l r c gl gr hw
    | join j => exact Good.join j l r c gl gr hw h3.1 h3.2
    | ignoreOne il => cases h3
  | select => cases hr

theorem atomsOK_of_rec (I : NodeInv) (R : Rel → Prop) (hat : ∀ x, x.isAtom = true → R x → I.atom x)
    (hun : ∀ op t c, R (.unary op t c) → R t) (hbin : ∀ op l r c, R (.binary op l r c) → R l ∧ R r)
    (t : Rel) (hr : t.RawSql) (h : R t) : t.AtomsOK I := by
  induction t with
  | leaf | mat | transfer => exact hat _ rfl h
  | unary _ t _ ih => exact ih hr (hun _ _ _ h)
  | binary _ l r _ ihl ihr => exact ⟨ihl hr.1 (hbin _ _ _ _ h).1, ihr hr.2.1 (hbin _ _ _ _ h).2⟩
  | select => cases hr

theorem atomsOK_triv (t : Rel) : t.AtomsOK NodeInv.triv := by
  induction t with
  | leaf | mat | transfer => trivial
  | unary _ _ _ ih => exact ih
  | binary _ _ _ _ ihl ihr => exact ⟨ihl, ihr⟩
  | select _ _ _ _ _ _ _ _ _ ihk => exact ⟨trivial, ihk⟩

theorem raw_good (σ : Leaves) (t : Rel) (hw : t.WF) (ht : t.Truthful σ) (hr : t.RawSql) : Good NodeInv.triv σ t :=
  raw_goodI σ t hw ht hr (atomsOK_triv t)

theorem good_wrap (σ : Leaves) (k r : Rel) (hk : Good I σ k) (hsh : k.compOK true = true)
    (h : applySkip k {} = .ok r) : Good I σ r ∧ ConformOK σ k r :=
  have W := applySkip_wrapped σ hk.wf hk.truthful (Slots.wfOn_empty _) (fun _ => rfl) h
  ⟨(W.goodSkip ⟨hk, hsh⟩).1, W.ok, W.sem_eq.trans (Slots.sem_empty _ _), W.cols, W.engine⟩

/-- An operand of a UNION that carries a slice is wrapped in a subquery. -/
def wrapSliced (x : Rel) : Except Err Rel := if x.slots.hasSlice then applySkip x {} else pure x

def chainSpec (l r : Rel) : Except Err BRes := do
  let l' ← wrapSliced l
  let r' ← wrapSliced r
  return .new (← applySkip (.binary .chain l' r' l'.columns) {})

/-- `Select.strip()` of a join operand, undone when a column it would uncover has the name of a column of
the other operand. -/
def stripGuard (x : Rel) (oc : Cols) : Rel × Bool :=
  let s := strip x
  if s.2 && !((s.1.columns.diff x.columns).inter oc).isEmpty then (x, false) else s

def joinSpec (j : JoinOp) (l r : Rel) : Except Err BRes := do
  let a := stripGuard l r.columns
  let b := stripGuard r l.columns
  let joined ← binaryFinishApply (.join j) a.1 b.1
  return .new (← applySkip (joined.get a.1 b.1)
    { proj := if a.2 || b.2 then some (l.columns.union r.columns) else none })

theorem appendBinarySel_eq (st : Store) (fuel : Nat) (op : BOp) (l r : Rel) :
    appendBinarySel st (fuel+1) op l r =
      if l.slots.hasSort && !l.slots.hasSlice then .error .relAlg
      else if r.slots.hasSort && !r.slots.hasSlice then .error .relAlg
      else match op with
        | .chain => chainSpec l r
        | .join j => joinSpec j l r
        | .ignoreOne il => .ok (if il then .rhs else .lhs) := by
  cases op with
  | chain =>
    rw [appendBinarySel]
    unfold chainSpec wrapSliced
    cases l.slots.hasSlice <;> cases r.slots.hasSlice <;> rfl
  | join j => rw [appendBinarySel]; rfl
  | ignoreOne il => rw [appendBinarySel]

theorem appendBinarySel_eq_ok {st : Store} {fuel : Nat} {op : BOp} {l r : Rel} {res : BRes}
    (h : appendBinarySel st (fuel+1) op l r = .ok res) :
    (match op with
      | .chain => chainSpec l r
      | .join j => joinSpec j l r
      | .ignoreOne il => .ok (if il then .rhs else .lhs)) = .ok res := by
  rw [appendBinarySel_eq] at h
  exact (Except.ite_error_eq_ok.mp (Except.ite_error_eq_ok.mp h).2).2

theorem wrapSliced_sound (σ : Leaves) (x x' : Rel) (hx : Good I σ x) (hxs : x.isSelect = true)
    (h : wrapSliced x = .ok x') : Good I σ x' ∧ ConformOK σ x x' := by
  unfold wrapSliced at h
  split at h
  · exact good_wrap σ x x' hx (hx.compOK hxs true) h
  · cases h
    exact ⟨hx, (hx.selInv hxs).1, rfl, fun _ => Iff.rfl, rfl⟩

/-- `_append_binary_to_select(Chain, lhs, rhs)` for two Good Selects `l'`, `r'` that stand for (conformed)
relations `l`, `r`. -/
theorem chain_conformed_sound (σ : Leaves) (st : Store) (fuel : Nat) (l r l' r' : Rel)
    (g1 : Good I σ l') (g2 : Good I σ r') (c1 : ConformOK σ l l') (c2 : ConformOK σ r r')
    (hcols : ∀ t, t ∈ l.columns ↔ t ∈ r.columns)
    (br : BRes) (h : appendBinarySel st fuel .chain l' r' = .ok br) :
    ∃ S, br = .new S ∧ Good I σ S ∧ SelOK σ S ∧ sem σ S = sem σ l ++ sem σ r ∧
      (∀ c, c ∈ S.columns ↔ c ∈ l.columns) ∧ S.engine = l.engine := by
  cases fuel with
  | zero => rw [appendBinarySel] at h; cases h
  | succ fuel =>
    obtain ⟨l'', h1, h⟩ := Except.bind_eq_ok.mp (appendBinarySel_eq_ok h)
    obtain ⟨r'', h2, h⟩ := Except.bind_eq_ok.mp h
    obtain ⟨S, ha, rfl⟩ := Except.bind_pure_eq_ok.mp h
    obtain ⟨gl, cl⟩ := wrapSliced_sound σ l' l'' g1 c1.ok.isSel h1
    obtain ⟨gr, cr⟩ := wrapSliced_sound σ r' r'' g2 c2.ok.isSel h2
    have hl : ∀ t, t ∈ l''.columns ↔ t ∈ l.columns := fun t => (cl.cols t).trans (c1.cols t)
    have hr : ∀ t, t ∈ r''.columns ↔ t ∈ r.columns := fun t => (cr.cols t).trans (c2.cols t)
    have hwf : (Rel.binary .chain l'' r'' l''.columns).WF :=
      ⟨gl.wf, gr.wf, rfl, fun t => (hl t).trans ((hcols t).trans (hr t).symm)⟩
    have W := applySkip_wrapped σ hwf ⟨gl.truthful, gr.truthful⟩ (Slots.wfOn_empty _) (fun _ => rfl) ha
    refine ⟨S, rfl, (W.goodSkip (GoodSkip.chain gl gr cl.ok.isSel cr.ok.isSel hwf)).1, W.ok, ?_,
      fun c => (W.cols c).trans (hl c), W.engine.trans (cl.engine.trans c1.engine)⟩
    rw [W.sem_eq, Slots.sem_empty, ← c1.sem_eq, ← c2.sem_eq, ← cl.sem_eq, ← cr.sem_eq]
    rfl

/-- `nx` can stand for the join operand `x` below the join: `x` is `nx` restricted to fewer columns, none of
the others is a column `oc` of the other operand; `xp`: a projection was stripped. -/
structure SideOK (I : NodeInv) (σ : Leaves) (x nx : Rel) (xp : Bool) (oc : Cols) : Prop where
  wf : nx.WF
  truthful : nx.Truthful σ
  sem_eq : sem σ x = (sem σ nx).map (fun r => r.restrict x.columns)
  sub : ∀ t, t ∈ x.columns → t ∈ nx.columns
  engine : nx.engine = x.engine
  hidden : ∀ u, u ∈ nx.columns → u ∉ x.columns → u ∉ oc
  same : xp = false → ∀ t, t ∈ nx.columns ↔ t ∈ x.columns
  notChain : isChain nx = false
  good : Good I σ nx
  shape : nx.compOK false = true

theorem sideOK_self (σ : Leaves) (x : Rel) (gx : Good I σ x) (hs : x.isSelect = true) (oc : Cols) :
    SideOK I σ x x false oc :=
  { wf := gx.wf, truthful := gx.truthful,
    sem_eq := (map_restrict_self _ x.columns x.columns gx.rows (fun _ => Iff.rfl)).symm, sub := fun _ h => h,
    engine := rfl, hidden := fun _ h1 h2 => absurd h1 h2, same := fun _ _ => Iff.rfl,
    notChain := not_chain_of_select x hs, good := gx, shape := gx.compOK hs false }

theorem stripGuard_ok (σ : Leaves) (x : Rel) (gx : Good I σ x) (hxs : x.isSelect = true) (oc : Cols) :
    SideOK I σ x (stripGuard x oc).1 (stripGuard x oc).2 oc := by
  obtain ⟨hx, hsh, _, gk⟩ := gx.selParts hxs
  unfold stripGuard strip
  by_cases hc : (!x.slots.dedup && !x.slots.hasSort && !x.slots.hasSlice && !x.isCompound) = true
  · simp only [hc, if_true]
    by_cases hg : (x.slots.hasProj && !((x.skipTo.columns.diff x.columns).inter oc).isEmpty) = true
    · simp only [hg, if_true]
      exact sideOK_self σ x gx hxs oc
    · -- the Select only projects: its skip target stands for it, under the projection
      simp only [hg, Bool.false_eq_true, if_false]
      simp only [Bool.and_eq_true, Bool.not_eq_true'] at hc
      obtain ⟨⟨⟨hd, hso⟩, hsl⟩, hcomp⟩ := hc
      have hsort : x.slots.sort = [] := List.isEmpty_iff.mp (by simpa [Slots.hasSort] using hso)
      have hnc : isChain x.skipTo = false := by rw [← hx.compound]; exact hcomp
      have hsem : sem σ x = projOpt x.slots.proj (sem σ x.skipTo) := by
        rw [hx.sem_eq, Slots.sem_eq_noSlice _ _ _ hsl, hd, hsort, isort_lexLe_nil]
        rfl
      have hcols := hx.cols
      unfold Slots.hasProj at hg ⊢
      unfold Slots.columns at hcols
      unfold projOpt at hsem
      cases hp : x.slots.proj with
      | none =>
        simp only [hp] at hcols hsem
        exact { wf := hx.skipWF, truthful := hx.skipTruthful,
                sem_eq := hsem.trans (map_restrict_self _ x.skipTo.columns x.columns hx.skipRows hcols).symm,
                sub := hx.cols_sub, engine := hx.engine.symm, hidden := fun u h1 h2 _ => h2 ((hcols u).mpr h1),
                same := fun _ t => (hcols t).symm, notChain := hnc, good := gk,
                shape := compOK_false_of_not_chain _ hsh hnc }
      | some c =>
        simp only [hp] at hcols hsem
        simp only [hp, Option.isSome_some, Bool.true_and, Bool.not_eq_true, Bool.not_eq_false'] at hg
        refine { wf := hx.skipWF, truthful := hx.skipTruthful,
                 sem_eq := hsem.trans (List.map_congr_left fun r _ => (Row.restrict_congr r _ _ hcols).symm),
                 sub := hx.cols_sub, engine := hx.engine.symm, hidden := fun u h1 h2 h3 => ?_, same := nofun,
                 notChain := hnc, good := gk, shape := compOK_false_of_not_chain _ hsh hnc }
        -- a hidden column with the name of a column of the other operand would have kept the Select
        have hmem : u ∈ (x.skipTo.columns.diff x.columns).inter oc :=
          (Cols.mem_inter _ _ _).mpr ⟨(Cols.mem_diff _ _ _).mpr ⟨h1, h2⟩, h3⟩
        rw [Cols.eq_nil_of_isEmpty _ hg] at hmem
        cases hmem
  · simp only [hc, Bool.false_eq_true, if_false, Bool.false_and]
    exact sideOK_self σ x gx hxs oc

/-- `_append_binary_to_select(Join, lhs, rhs)` for two Good Selects. -/
theorem join_sel_sound (σ : Leaves) (st : Store) (fuel : Nat) (j : JoinOp) (l r : Rel) (hl : Good I σ l)
    (hr : Good I σ r) (hls : l.isSelect = true) (hrs : r.isSelect = true)
    (hcl : j.minCols.subset l.columns = true) (hcr : j.minCols.subset r.columns = true)
    (hp : j.pred.columnsRequired.subset (l.columns.union r.columns) = true) (heng : l.engine = r.engine)
    (res : BRes) (h : appendBinarySel st (fuel+1) (.join j) l r = .ok res) :
    ∃ S, res = .new S ∧ Good I σ S ∧ SelOK σ S ∧
      sem σ S = joinRows j.minCols j.pred (sem σ l) (sem σ r) ∧
      (∀ c, c ∈ S.columns ↔ c ∈ l.columns.union r.columns) ∧ S.engine = l.engine := by
  obtain ⟨joined, hj, h⟩ := Except.bind_eq_ok.mp (appendBinarySel_eq_ok h)
  obtain ⟨S, ha, rfl⟩ := Except.bind_pure_eq_ok.mp h
  have A := stripGuard_ok σ l hl hls r.columns
  have B := stripGuard_ok σ r hr hrs l.columns
  generalize (stripGuard l r.columns).1 = nl at hj ha A
  generalize (stripGuard l r.columns).2 = lp at ha A
  generalize (stripGuard r l.columns).1 = nr at hj ha B
  generalize (stripGuard r l.columns).2 = rp at ha B
  have hsubU : ∀ t, t ∈ l.columns.union r.columns → t ∈ nl.columns.union nr.columns :=
    Cols.mem_union_mono A.sub B.sub
  have hengN : nl.engine = nr.engine := by rw [A.engine, B.engine]; exact heng
  obtain ⟨jw, jt, jsem, jcols, jeng⟩ := joinFinish_sound σ j nl nr A.wf A.truthful B.wf B.truthful
    (Cols.subset_mono hcl A.sub) (Cols.subset_mono hcr B.sub) hengN joined hj
  -- the joined skip target: one of the stripped operands, or a join node over both
  have gk : isChain (joined.get nl nr) = false ∧ GoodSkip I σ (joined.get nl nr) := by
    rcases binaryFinishApply_join_inv hj with ⟨rfl, _⟩ | ⟨rfl, _⟩ | rfl
    · exact ⟨B.notChain, B.good, compOK_true_of_false _ B.shape⟩
    · exact ⟨A.notChain, A.good, compOK_true_of_false _ A.shape⟩
    · exact ⟨rfl, Good.join j nl nr _ A.good B.good jw (Cols.subset_mono hp hsubU) hengN,
        by simp [BRes.get, Rel.compOK, A.shape, B.shape]⟩
  -- the re-projection, recorded when an operand was stripped of one
  generalize hP : (if lp || rp then some (l.columns.union r.columns) else none : Option Cols) = P at ha
  have hPc : P = some (l.columns.union r.columns) ∨ (lp = false ∧ rp = false) ∧ P = none := by
    rw [← hP]; cases lp <;> cases rp <;> simp
  have hw : ({ proj := P } : Slots).wfOn (joined.get nl nr).columns := by
    refine ⟨rfl, fun c hc => ?_⟩
    rcases hPc with hPc | ⟨_, hPc⟩ <;> rw [hPc] at hc <;> cases hc
    exact (Cols.subset_iff _ _).mpr fun u hu => (jcols u).mpr (hsubU u hu)
  have W := applySkip_wrapped σ jw jt hw (fun hc => by rw [gk.1] at hc; cases hc) ha
  refine ⟨S, rfl, (W.goodSkip gk.2).1, W.ok, ?_, fun c => (W.cols c).trans ?_, by rw [W.engine, jeng, A.engine]⟩
  · rw [W.sem_eq, Slots.sem_eq, jsem, A.sem_eq, B.sem_eq]
    show projOpt P (isort (lexLe []) _) = _
    rw [isort_lexLe_nil]
    rcases hPc with hPc | ⟨hpj, hPc⟩ <;> rw [hPc]
    · exact (joinRows_restrict j.minCols j.pred (sem σ nl) (sem σ nr) l.columns r.columns nr.columns
        (metadata_truthful σ nr B.wf B.truthful).keys B.sub B.hidden
        (fun _ => Cols.mem_of_subset hcl) (fun _ => Cols.mem_of_subset hcr) hp).symm
    · -- nothing was stripped: the operands are the Selects themselves, up to the order of columns
      rw [map_restrict_self _ nl.columns l.columns (metadata_truthful σ nl A.wf A.truthful).keys
          (fun t => (A.same hpj.1 t).symm),
        map_restrict_self _ nr.columns r.columns (metadata_truthful σ nr B.wf B.truthful).keys
          (fun t => (B.same hpj.2 t).symm)]
      rfl
  · rcases hPc with hPc | ⟨hpj, hPc⟩ <;> rw [hPc]
    · exact Iff.rfl
    · exact (jcols c).trans (Cols.mem_union_congr (A.same hpj.1) (B.same hpj.2) c)

/-- `join_sel_sound` for operands that were conformed first, stated for the operands as given. -/
theorem join_conformed_sound (σ : Leaves) (st : Store) (fuel : Nat) (j : JoinOp) (l r l' r' : Rel)
    (g1 : Good I σ l') (g2 : Good I σ r') (c1 : ConformOK σ l l') (c2 : ConformOK σ r r')
    (hcl : j.minCols.subset l.columns = true) (hcr : j.minCols.subset r.columns = true)
    (hp : j.pred.columnsRequired.subset (l.columns.union r.columns) = true) (heng : l.engine = r.engine)
    (br : BRes) (h : appendBinarySel st fuel (.join j) l' r' = .ok br) :
    ∃ S, br = .new S ∧ Good I σ S ∧ SelOK σ S ∧ sem σ S = joinRows j.minCols j.pred (sem σ l) (sem σ r) ∧
      (∀ c, c ∈ S.columns ↔ c ∈ l.columns.union r.columns) ∧ S.engine = l.engine := by
  cases fuel with
  | zero => rw [appendBinarySel] at h; cases h
  | succ fuel =>
    have hun : ∀ t, t ∈ l'.columns.union r'.columns ↔ t ∈ l.columns.union r.columns :=
      Cols.mem_union_congr c1.cols c2.cols
    obtain ⟨S, hS, gS, okS, semS, colS, engS⟩ :=
      join_sel_sound σ st fuel j _ _ g1 g2 c1.ok.isSel c2.ok.isSel
        ((Cols.subset_congr _ c1.cols).trans hcl) ((Cols.subset_congr _ c2.cols).trans hcr)
        ((Cols.subset_congr _ hun).trans hp) (by rw [c1.engine, c2.engine]; exact heng) br h
    exact ⟨S, hS, gS, okS, by rw [semS, c1.sem_eq, c2.sem_eq], fun c => (colS c).trans (hun c),
      by rw [engS, c1.engine]⟩

theorem conform_of_select (st : Store) (fuel : Nat) (S : Rel) (hs : S.isSelect = true) :
    conform st (fuel+1) S = .ok .same := by
  obtain ⟨_, _, _, _, _, _, _, _, _, rfl⟩ := Rel.isSelect_inv hs
  rw [conform]

/-- The joint statement proved by induction over the recursion budget, one field for each function of the
mutual block that the unary operations go through.  The calls go round: `apply` → `appendUnary` → `conform` →
`appendSel` → `apply` (a projection pushed into the branches of a UNION).  `apply` asks no `wfOn`: `_begin_apply`
checks it, or replaces an operation that does nothing by the identity; `isSelect` stands beside `FinishOK` only, since
`ConformOK` and `AppendOK` contain it (`.ok.isSel`). -/
structure TreeBuildOK (I : NodeInv) (σ : Leaves) (st : Store) (fuel : Nat) : Prop where
  conform : ∀ t res, Good I σ t → DafRel.conform st fuel t = .ok res →
    Good I σ (res.get t) ∧ ConformOK σ t (res.get t)
  appendSel : ∀ op S res, Good I σ S → S.isSelect = true → op.wfOn S.columns = true →
    appendUnarySel st fuel (.u op) S = .ok res → Good I σ (res.get S) ∧ AppendOK σ op S (res.get S)
  appendUnary : ∀ op x res, Good I σ x → op.wfOn x.columns = true →
    DafRel.appendUnary st fuel (.u op) x = .ok res →
    Good I σ (res.get x) ∧ FinishOK σ op x (res.get x) ∧ (res.get x).isSelect = true
  apply : ∀ op x res, Good I σ x → applyOp st fuel (.u op) x {} = .ok res →
    Good I σ (res.get x) ∧ FinishOK σ op x (res.get x) ∧ (res.get x).isSelect = true

/-- `conform` followed by `_append_unary_to_select`, stated for the relation as given. -/
theorem append_conformed_sound (σ : Leaves) (st : Store) (fuel : Nat) (ih : TreeBuildOK I σ st fuel) (op : UOp)
    (x : Rel) (ct r2 : Res) (gx : Good I σ x) (hop : op.wfOn x.columns = true)
    (h1 : DafRel.conform st fuel x = .ok ct) (h2 : appendUnarySel st fuel (.u op) (ct.get x) = .ok r2) :
    Good I σ (r2.get (ct.get x)) ∧ SelOK σ (r2.get (ct.get x)) ∧ FinishOK σ op x (r2.get (ct.get x)) := by
  obtain ⟨gs, cs⟩ := ih.conform x ct gx h1
  obtain ⟨g2, a2⟩ := ih.appendSel op _ r2 gs cs.ok.isSel ((UOp.wfOn_congr op _ _ cs.cols).trans hop) h2
  exact ⟨g2, a2.ok, FinishOK.of_same ⟨a2.ok.wf, a2.ok.truthful, a2.sem_eq, a2.cols, a2.engine⟩ cs.sem_eq cs.cols
    cs.engine⟩

theorem treeBuild_succ (σ : Leaves) (st : Store) (fuel : Nat) (ih : TreeBuildOK I σ st fuel) :
    TreeBuildOK I σ st (fuel+1) where
  conform t res ht h := by
    cases t with
    | select =>
      rw [conform] at h
      cases h
      exact ⟨ht, (ht.selInv rfl).1, rfl, fun _ => Iff.rfl, rfl⟩
    | leaf | mat | transfer =>
      -- a payload holder is wrapped in a Select with nothing recorded
      rw [conform] at h
      obtain ⟨S, hS, rfl⟩ := Except.bind_pure_eq_ok.mp h
      exact good_wrap σ _ S ht (compOK_atom _ rfl true) hS
    | unary op t' c =>
      rw [conform] at h
      obtain ⟨gt', hw, rfl, hop⟩ := ht.unaryInv
      obtain ⟨ct, h1, h⟩ := Except.bind_eq_ok.mp h
      obtain ⟨r2, h2, h⟩ := Except.bind_eq_ok.mp h
      cases h
      obtain ⟨g2, ok2, F⟩ := append_conformed_sound σ st fuel ih op t' ct r2 gt' hop h1 h2
      exact ⟨g2, ok2, F.sem_eq, F.cols, F.engine⟩
    | binary bop l r c =>
      rw [conform] at h
      obtain ⟨cl, h1, h⟩ := Except.bind_eq_ok.mp h
      obtain ⟨cr, h2, h⟩ := Except.bind_eq_ok.mp h
      obtain ⟨br, h3, h⟩ := Except.bind_eq_ok.mp h
      cases h
      cases ht with
      | atom _ ha => cases ha
      | sel _ hS => cases hS.isSel
      | chain _ _ _ gl gr hw =>
        obtain ⟨g1, c1⟩ := ih.conform l cl gl h1
        obtain ⟨g2, c2⟩ := ih.conform r cr gr h2
        obtain ⟨-, -, rfl, hlr⟩ := hw
        obtain ⟨S, rfl, gS, okS, semS, colS, engS⟩ := chain_conformed_sound σ st fuel l r _ _ g1 g2 c1 c2 hlr br h3
        exact ⟨gS, okS, semS, colS, engS⟩
      | join j _ _ _ gl gr hw hp heng =>
        obtain ⟨g1, c1⟩ := ih.conform l cl gl h1
        obtain ⟨g2, c2⟩ := ih.conform r cr gr h2
        obtain ⟨-, -, rfl, hml, hmr⟩ := hw
        obtain ⟨S, rfl, gS, okS, semS, colS, engS⟩ :=
          join_conformed_sound σ st fuel j l r _ _ g1 g2 c1 c2 hml hmr hp heng br h3
        exact ⟨gS, okS, semS, colS, engS⟩
  appendSel op S res gS hs hop h := by
    obtain ⟨okS, gk⟩ := gS.selInv hs
    -- the recursive call: a projection pushed into the branches of a UNION
    have hpush : ∀ c, op = .proj c → ∀ l r cc, S.skipTo = .binary .chain l r cc → ∀ x res', (x = l ∨ x = r) →
        applyOp st fuel (.u (.proj c)) x {} = .ok res' →
        Good I σ (res'.get x) ∧ FinishOK σ (.proj c) x (res'.get x) ∧ (res'.get x).isSelect = true := by
      intro c _ l r cc hk x res' hx hx'
      have hbr := (hk ▸ gk : Good I σ (.binary .chain l r cc)).chainInv
      exact ih.apply (.proj c) x res' (by rcases hx with rfl | rfl; exact hbr.1; exact hbr.2) hx'
    obtain ⟨A, K⟩ := appendUnarySel_sound σ st fuel op S res okS hop hpush h
    exact ⟨Good.ofSel A.ok (K gS hs).2.1 (K gS hs).2.2 (K gS hs).1, A⟩
  appendUnary op x res gx hop h := by
    rw [appendUnary] at h
    simp only [gx.sql] at h
    obtain ⟨ct, h1, h⟩ := Except.bind_eq_ok.mp h
    obtain ⟨r2, h2, h⟩ := Except.bind_eq_ok.mp h
    obtain ⟨g2, ok2, F⟩ := append_conformed_sound σ st fuel ih op x ct r2 gx hop h1 h2
    -- `res` is `same` only when neither step made a new relation
    have hres : res.get x = r2.get (ct.get x) := by
      cases r2 <;> cases ct <;> (cases h; rfl)
    rw [hres]
    exact ⟨g2, F, ok2.isSel⟩
  apply op x res gx h := by
    -- default options: `_begin_apply`, then `append_unary` in the engine of the target
    rw [applyOp_default] at h
    obtain ⟨⟨o', e⟩, hb, h1⟩ := Except.bind_eq_ok.mp h
    rcases (UOp.beginApply_inv op x none o' e hb).1 with ⟨rfl, hwf⟩ | ⟨rfl, hnoop⟩
    · exact ih.appendUnary _ x res gx hwf h1
    · -- an operation that does nothing here was replaced by the identity placeholder
      obtain ⟨g, F, hsel⟩ := ih.appendUnary .identity x res gx rfl h1
      have N := noop_sound σ op x gx.wf gx.truthful hnoop
      exact ⟨g, ⟨F.wf, F.truthful, F.sem_eq.trans N.sem_eq, fun c => (F.cols c).trans (N.cols c), F.engine⟩, hsel⟩

theorem treeBuild_sound (σ : Leaves) (st : Store) : ∀ fuel, TreeBuildOK I σ st fuel := by
  intro fuel
  induction fuel with
  | zero =>
    exact ⟨fun _ _ _ h => (by unfold conform at h; cases h), fun _ _ _ _ _ _ h => (by unfold appendUnarySel at h; cases h),
      fun _ _ _ _ _ h => (by unfold appendUnary at h; cases h), fun _ _ _ _ h => (by unfold applyOp at h; cases h)⟩
  | succ fuel ih => exact treeBuild_succ σ st fuel ih

theorem appendBinarySql_eq_ok {st : Store} {fuel : Nat} {op : BOp} {l r : Rel} {res : BRes}
    (h : appendBinarySql st fuel op l r = .ok res) :
    ∃ fuel' cl cr br, fuel = fuel' + 1 ∧ l.engine = r.engine ∧ conform st fuel' l = .ok cl ∧
      conform st fuel' r = .ok cr ∧ appendBinarySel st fuel' op (cl.get l) (cr.get r) = .ok br ∧
      ∀ S, br = .new S → res = .new S := by
  cases fuel with
  | zero => rw [appendBinarySql] at h; cases h
  | succ fuel =>
    rw [appendBinarySql] at h
    obtain ⟨heng, h⟩ := Except.ite_error_eq_ok.mp h
    simp only [Bool.or_eq_true, bne_iff_ne, ne_eq, not_or, Decidable.not_not] at heng
    obtain ⟨cl, h1, h⟩ := Except.bind_eq_ok.mp h
    obtain ⟨cr, h2, h⟩ := Except.bind_eq_ok.mp h
    obtain ⟨br, h3, h⟩ := Except.bind_eq_ok.mp h
    exact ⟨fuel, cl, cr, br, rfl, heng.1, h1, h2, h3, fun S hS => by subst hS; cases h; rfl⟩

/-- `sql.Engine.append_binary(Join, lhs, rhs)` on two Good trees. -/
theorem appendBinarySql_join_sound (σ : Leaves) (st : Store) (fuel : Nat) (j : JoinOp) (l r : Rel)
    (gl : Good I σ l) (gr : Good I σ r) (hcl : j.minCols.subset l.columns = true)
    (hcr : j.minCols.subset r.columns = true)
    (hp : j.pred.columnsRequired.subset (l.columns.union r.columns) = true)
    (res : BRes) (h : appendBinarySql st fuel (.join j) l r = .ok res) :
    ∃ T, res = .new T ∧ Good I σ T ∧ SelOK σ T ∧ sem σ T = joinRows j.minCols j.pred (sem σ l) (sem σ r) ∧
      (∀ c, c ∈ T.columns ↔ c ∈ l.columns.union r.columns) ∧ T.engine = l.engine := by
  obtain ⟨fuel, cl, cr, br, rfl, heng, h1, h2, h3, hres⟩ := appendBinarySql_eq_ok h
  obtain ⟨g1, c1⟩ := (treeBuild_sound σ st fuel).conform l cl gl h1
  obtain ⟨g2, c2⟩ := (treeBuild_sound σ st fuel).conform r cr gr h2
  obtain ⟨S, hS, rest⟩ := join_conformed_sound σ st fuel j l r _ _ g1 g2 c1 c2 hcl hcr hp heng br h3
  exact ⟨S, hres S hS, rest⟩

/-- `_append_unary_to_select(PartialJoin, select)` is `append_binary` on the operands in their order; a new
relation it makes is never one of the operands, so it is the result. -/
theorem appendUnarySel_pj_eq_ok {st : Store} {fuel : Nat} {p : PJoin} {S : Rel} {res : Res}
    (h : appendUnarySel st fuel (.pj p) S = .ok res) :
    ∃ fuel' br, fuel = fuel' + 1 ∧ appendBinarySql st fuel' (.join p.join) (p.lhs S) (p.rhs S) = .ok br ∧
      ∀ T, br = .new T → res = .new T := by
  cases fuel with
  | zero => rw [appendUnarySel] at h; cases h
  | succ fuel =>
    rw [appendUnarySel] at h
    unfold PJoin.lhs PJoin.rhs
    cases hf : p.fixedIsLhs <;> simp only [hf, if_true, Bool.false_eq_true, if_false] at h ⊢
    all_goals
      obtain ⟨br, hb, h⟩ := Except.bind_eq_ok.mp h
      exact ⟨fuel, br, rfl, hb, fun T hT => by subst hT; cases h; rfl⟩

end DafRel
