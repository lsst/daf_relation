/-
What the factories return when a SQL engine is involved, on top of the tree-building induction
(`treeBuild_sound`): `Engine.transfer` (through `conform`), `Join.partial(fixed).apply(target)`
(`PartialJoin._begin_apply` resolves the common columns, `append_unary` conforms the target and joins the two
Selects), `chain`, `materialized`.  Composed over construction histories inside one SQL engine (`SqlBuild`):
the tree the factories build has, in the reference semantics, exactly the rows of the direct evaluation of
the operation sequence - the SQL analogue of `build_invariant` (C01).
-/
import DafRel.Lemmas.ConformSound
import DafRel.Lemmas.JoinCommon

namespace DafRel

theorem conformIn_sound {I : NodeInv} (σ : Leaves) (st : Store) (fuel : Nat) (t : Rel) (ct : Res) (hwf : t.WF)
    (htr : t.Truthful σ) (hg : t.engine.kind = .sql → Good I σ t)
    (h : conformIn st fuel t.engine.kind t = .ok ct) :
    sem σ (ct.get t) = sem σ t ∧ (∀ c, c ∈ (ct.get t).columns ↔ c ∈ t.columns) ∧
      (ct.get t).WF ∧ (ct.get t).Truthful σ := by
  cases fuel with
  | zero => cases h
  | succ fuel =>
    unfold conformIn at h
    split at h
    · next hk =>
      obtain ⟨_, C⟩ := (treeBuild_sound σ st fuel).conform t ct (hg hk) h
      exact ⟨C.sem_eq, C.cols, C.ok.wf, C.ok.truthful⟩
    · cases h
      exact ⟨rfl, fun _ => Iff.rfl, hwf, htr⟩

/-- `relation.transferred_to(dest)` when `Transfer.simplify` finds nothing to strip, engines of either family: the
relation itself or a new Transfer over the conformed source, conformed by a destination that is a database.  A source
in a database is any relation the tree-building theorems cover, a raw tree or what the factories made of one. -/
theorem transferTo_sound_of_none (σ : Leaves) (st : Store) (fuel : Nat) (dest : Engine) (t : Rel)
    (res : Res) (hwf : t.WF) (htr : t.Truthful σ) (hg : t.engine.kind = .sql → Good NodeInv.triv σ t)
    (hs : transferSimplify dest t = none) (h : transferTo st fuel dest t = .ok res) :
    sem σ (res.get t) = sem σ t ∧ (∀ c, c ∈ (res.get t).columns ↔ c ∈ t.columns) ∧
      (res.get t).WF ∧ (res.get t).Truthful σ ∧ (res.get t).engine = dest ∧
      (dest.kind = .sql → Good NodeInv.triv σ (res.get t)) := by
  cases fuel with
  | zero => rw [transferTo] at h; cases h
  | succ fuel =>
    rw [transferTo_eq_of_none st fuel dest t hs] at h
    obtain ⟨base, hb, h⟩ := Except.bind_eq_ok.mp h
    -- the relation itself, or a new Transfer over the conformed source
    obtain ⟨b1, b2, b3, b4, b5, b6⟩ :
        sem σ (base.get t) = sem σ t ∧ (∀ c, c ∈ (base.get t).columns ↔ c ∈ t.columns) ∧ (base.get t).WF ∧
        (base.get t).Truthful σ ∧ (base.get t).engine = dest ∧ (dest.kind = .sql → Good NodeInv.triv σ (base.get t)) := by
      split at hb
      · rename_i he
        cases hb
        have hed : t.engine = dest := beq_iff_eq.mp he
        exact ⟨rfl, fun _ => Iff.rfl, hwf, htr, hed, fun hk => hg (hed ▸ hk)⟩
      · obtain ⟨ct, hci, hb⟩ := Except.bind_eq_ok.mp hb
        cases hb
        obtain ⟨s1, s2, s3, s4⟩ := conformIn_sound σ st fuel t ct hwf htr hg hci
        exact ⟨s1, s2, s3, s4, rfl, fun hk => Good.atom _ rfl s3 s4 hk trivial⟩
    cases hk : dest.kind with
    | iter =>
      rw [hk] at h
      cases h
      exact ⟨b1, b2, b3, b4, b5, fun hq => nomatch hq⟩
    | sql =>
      rw [hk] at h
      obtain ⟨c2, hc, h⟩ := Except.bind_eq_ok.mp h
      obtain ⟨gC, C⟩ := (treeBuild_sound σ st fuel).conform _ c2 (b6 hk) hc
      have hres : res.get t = c2.get (base.get t) := by cases c2 <;> (cases h; rfl)
      rw [hres]
      exact ⟨C.sem_eq.trans b1, fun c => (C.cols c).trans (b2 c), C.ok.wf, C.ok.truthful, C.engine.trans b5, fun _ => gC⟩

theorem transferTo_sql_sound (σ : Leaves) (st : Store) (fuel : Nat) (dest : Engine) (t : Rel)
    (res : Res) (hwf : t.WF) (htr : t.Truthful σ) (hraw : t.engine.kind = .sql → t.RawSql)
    (hs : transferSimplify dest t = none) (h : transferTo st fuel dest t = .ok res) :
    sem σ (res.get t) = sem σ t ∧ (∀ c, c ∈ (res.get t).columns ↔ c ∈ t.columns) ∧
      (res.get t).WF ∧ (res.get t).Truthful σ ∧ (t.engine ≠ dest → (res.get t).engine = dest) ∧
      (t.engine = dest → (res.get t).engine = dest) ∧ (dest.kind = .sql → Good NodeInv.triv σ (res.get t)) :=
  let ⟨s, c, w, tr, e, g⟩ :=
    transferTo_sound_of_none σ st fuel dest t res hwf htr (fun hk => raw_good σ t hwf htr (hraw hk)) hs h
  ⟨s, c, w, tr, fun _ => e, fun _ => e, g⟩

variable {I : NodeInv}

/-- `append_unary(PartialJoin, target)` in the SQL engine. -/
theorem appendUnary_pj_sound (σ : Leaves) (st : Store) (fuel : Nat) (p : PJoin) (x : Rel)
    (gx : Good I σ x) (gF : Good I σ p.fixed)
    (hcl : p.join.minCols.subset (p.lhs x).columns = true) (hcr : p.join.minCols.subset (p.rhs x).columns = true)
    (hp : p.join.pred.columnsRequired.subset ((p.lhs x).columns.union (p.rhs x).columns) = true)
    (res : Res) (h : appendUnary st fuel (.pj p) x = .ok res) :
    ∃ T, res = .new T ∧ Good I σ T ∧ SelOK σ T ∧
      sem σ T = joinRows p.join.minCols p.join.pred (sem σ (p.lhs x)) (sem σ (p.rhs x)) ∧
      (∀ c, c ∈ T.columns ↔ c ∈ (p.lhs x).columns.union (p.rhs x).columns) ∧ T.engine = (p.lhs x).engine := by
  cases fuel with
  | zero => rw [appendUnary] at h; cases h
  | succ fuel =>
    rw [appendUnary] at h
    simp only [gx.sql] at h
    obtain ⟨ct, h1, h⟩ := Except.bind_eq_ok.mp h
    obtain ⟨r2, h2, h⟩ := Except.bind_eq_ok.mp h
    obtain ⟨gs, cs⟩ := (treeBuild_sound σ st fuel).conform x ct gx h1
    obtain ⟨fuel', br, rfl, hb, hbr⟩ := appendUnarySel_pj_eq_ok h2
    -- the operands with the conformed target in place of the target: same rows, columns, engine
    obtain ⟨⟨sl, cl, el⟩, sr, cr, _⟩ := p.sides_rel
      (fun a b => sem σ a = sem σ b ∧ (∀ t, t ∈ a.columns ↔ t ∈ b.columns) ∧ a.engine = b.engine)
      (fun _ => ⟨rfl, fun _ => Iff.rfl, rfl⟩) ⟨cs.sem_eq, cs.cols, cs.engine⟩
    have hun := Cols.mem_union_congr cl cr
    obtain ⟨gl, gr⟩ := p.sides_of (Good I σ) gF gs
    obtain ⟨T, hT, gT, okT, semT, colT, engT⟩ := appendBinarySql_join_sound σ st fuel' p.join _ _ gl gr
      ((Cols.subset_congr _ cl).trans hcl) ((Cols.subset_congr _ cr).trans hcr)
      ((Cols.subset_congr _ hun).trans hp) br hb
    cases hbr T hT
    have hres : res = .new T := by cases ct <;> (cases h; rfl)
    exact ⟨T, hres, gT, okT, by rw [semT, sl, sr], fun c => (colT c).trans (hun c), by rw [engT, el]⟩

/-- **`Join.partial(fixed).apply(target)` inside one SQL engine** (no preferred engine given): a coherent
Select with exactly the rows of the join of the two operands on the columns `common` that `Join.applied_common_columns`
gives. -/
theorem applyOp_pj_sound (σ : Leaves) (st : Store) (fuel : Nat) (p : PJoin) (x : Rel) (o : Opts)
    (gx : Good I σ x) (gF : Good I σ p.fixed) (hpref : o.pref = none) (heng : p.fixed.engine = x.engine)
    (hfix : p.join.resolved = true → p.join.minCols.subset p.fixed.columns = true)
    (res : Res) (h : applyOp st fuel (.pj p) x o = .ok res) :
    ∃ common T, res = .new T ∧ Good I σ T ∧ SelOK σ T ∧
      sem σ T = joinRows common p.join.pred (sem σ (p.lhs x)) (sem σ (p.rhs x)) ∧
      (∀ c, c ∈ T.columns ↔ c ∈ (p.lhs x).columns.union (p.rhs x).columns) ∧ T.engine = x.engine ∧
      common.subset p.fixed.columns = true ∧ common.subset x.columns = true ∧
      p.join.appliedCommonColumns p.fixed.columns x.columns = .ok common := by
  obtain ⟨fuel, p', e, rfl, hb, h⟩ := applyOp_pj_inv h
  obtain ⟨f1, f2, f3, f4, f5, f6, f7, f8⟩ := pjBeginApply_frame p x o.pref p' e hb
  -- no preferred engine: the engine of the fixed operand, which is the target's
  obtain rfl : e = x.engine := by rw [f4, hpref]; exact heng
  rw [applyAfterBegin_same_engine] at h
  have hl : p'.lhs x = p.lhs x := by unfold PJoin.lhs; rw [f1, f2]
  have hr : p'.rhs x = p.rhs x := by unfold PJoin.rhs; rw [f1, f2]
  obtain ⟨hcl, hcr⟩ := p'.sides_of (fun r => p'.join.minCols.subset r.columns = true) (f1 ▸ f5 hfix) f6
  have hp := Cols.subset_mono (f1 ▸ f7) fun t => (p'.mem_union_sides x t).mpr
  obtain ⟨T, rfl, gT, okT, semT, colT, engT⟩ :=
    appendUnary_pj_sound σ st fuel p' x gx (f1 ▸ gF) hcl hcr hp res h
  refine ⟨p'.join.minCols, T, rfl, gT, okT, ?_, ?_, ?_, f5 hfix, f6, f8⟩
  · rw [semT, hl, hr, f3]
  · intro c; rw [colT c, hl, hr]
  · rw [engT, hl]
    exact (p.sides_of (fun r => r.engine = x.engine) heng rfl).1

/-- `lhs.chain(rhs)` inside one SQL engine. -/
theorem binaryApply_chain_sql_sound (σ : Leaves) (st : Store) (fuel : Nat) (l r : Rel)
    (gl : Good I σ l) (gr : Good I σ r) (res : BRes) (h : binaryApply st fuel .chain l r = .ok res) :
    ∃ T, res = .new T ∧ Good I σ T ∧ SelOK σ T ∧ sem σ T = sem σ l ++ sem σ r ∧
      (∀ c, c ∈ T.columns ↔ c ∈ l.columns) ∧ T.engine = l.engine := by
  cases fuel with
  | zero => rw [binaryApply] at h; cases h
  | succ fuel =>
    rw [binaryApply] at h
    obtain ⟨op', hcb, h⟩ := Except.bind_eq_ok.mp h
    obtain ⟨rfl, _, hcols⟩ := chainBeginApply_inv hcb
    rw [gl.sql] at h
    obtain ⟨fuel, cl, cr, br, rfl, _, h1, h2, h3, hres⟩ := appendBinarySql_eq_ok h
    obtain ⟨g1, c1⟩ := (treeBuild_sound σ st fuel).conform l cl gl h1
    obtain ⟨g2, c2⟩ := (treeBuild_sound σ st fuel).conform r cr gr h2
    obtain ⟨S, hS, rest⟩ := chain_conformed_sound σ st fuel l r _ _ g1 g2 c1 c2 hcols br h3
    exact ⟨S, hres S hS, rest⟩

theorem materialize_good (σ : Leaves) (st : Store) (fuel : Nat) (t : Rel) (name : String) (res : Res)
    (gt : Good I σ t) (hnew : ∀ x : Rel, x.isAtom = true → x.oid = 0 → I.atom x)
    (h : materialize st fuel t name = .ok res) :
    Good I σ (res.get t) ∧ sem σ (res.get t) = sem σ t ∧ (∀ c, c ∈ (res.get t).columns ↔ c ∈ t.columns) ∧
      (res.get t).engine = t.engine := by
  cases fuel with
  | zero => rw [materialize] at h; cases h
  | succ fuel =>
    rw [materialize] at h
    simp only [gt.sql] at h
    obtain ⟨ct, hc, h⟩ := Except.bind_eq_ok.mp h
    obtain ⟨g, C⟩ := (treeBuild_sound σ st fuel).conform t ct gt hc
    obtain ⟨-, h⟩ := Except.ite_error_eq_ok.mp h
    split at h
    · -- the conformed target is (a marker over) a materialization already
      cases h
      exact ⟨g, C.sem_eq, C.cols, C.engine⟩
    · obtain ⟨r, ha, rfl⟩ := Except.bind_pure_eq_ok.mp h
      have gM : Good I σ (Rel.mat 0 name (ct.get t)) :=
        Good.atom _ rfl C.ok.wf C.ok.truthful (C.engine ▸ gt.sql) (hnew _ rfl rfl)
      obtain ⟨gW, W⟩ := good_wrap σ _ r gM rfl ha
      exact ⟨gW, W.sem_eq.trans C.sem_eq, fun c => (W.cols c).trans (C.cols c), W.engine.trans C.engine⟩

structure SqlBuilt (I : NodeInv) (σ : Leaves) (eng : Engine) (b : SqlBuild) (r : Rel) : Prop where
  good : Good I σ r
  sem_eq : sem σ r = b.direct σ
  cols : ∀ c, c ∈ r.columns ↔ c ∈ b.cols
  engine : r.engine = eng

/-- **Every construction history inside one SQL engine builds a tree with the rows of its direct
evaluation.** -/
theorem sql_build_invariantI (σ : Leaves) (st : Store) (eng : Engine) (hk : eng.kind = .sql)
    (hnew : ∀ x : Rel, x.isAtom = true → x.oid = 0 → I.atom x) (b : SqlBuild) (r : Rel) (hok : b.ok σ)
    (hl : b.LeavesOK I eng) (h : b.tree st eng = .ok r) : SqlBuilt I σ eng b r := by
  -- the branches of `SqlBuild.tree`: 1 `leaf`, 2-4 `op`, 5-8 `chain`, 9-12 `join`, 13-15 `mat`
  fun_induction SqlBuild.tree st eng b generalizing r with
  | case2 | case3 | case5 | case6 | case7 | case9 | case10 | case11 | case13 | case14 => cases h  -- a factory call raised
  | case1 =>
    cases h
    exact ⟨Good.atom _ rfl trivial hok hk hl, rfl, fun _ => Iff.rfl, rfl⟩
  | case4 o b t hb res ha ih =>
    cases h
    have ih := ih t hok hl hb
    obtain ⟨g, F, _⟩ := (treeBuild_sound σ st defaultFuel).apply o t res ih.good ha
    exact ⟨g, (F.on ih.sem_eq ih.cols).1, (F.on ih.sem_eq ih.cols).2, F.engine.trans ih.engine⟩
  | case8 a b ta ha tb hb res hc iha ihb =>
    cases h
    have iha := iha ta hok.1 hl.1 ha
    have ihb := ihb tb hok.2 hl.2 hb
    obtain ⟨T, rfl, gT, _, semT, colT, engT⟩ :=
      binaryApply_chain_sql_sound σ st defaultFuel ta tb iha.good ihb.good res hc
    exact ⟨gT, by show sem σ T = _; rw [semT, iha.sem_eq, ihb.sem_eq]; rfl,
      fun c => (colT c).trans (iha.cols c), engT.trans iha.engine⟩
  | case12 a b pred ta ha tb hb res hj iha ihb =>
    cases h
    have iha := iha ta hok.1 hl.1 ha
    have ihb := ihb tb hok.2 hl.2 hb
    -- `joinWith ta tb pred` is `Join(pred).partial(tb).apply(ta)`: `applyOp` of the `PJoin` `⟨⟨pred, [], none⟩, tb, false⟩`,
    -- i.e. `join := {pred, minCols := [], maxCols := none}` (columns unresolved), `fixed := tb`, `fixedIsLhs := false`
    unfold Rel.joinWith JoinOp.make at hj
    obtain ⟨common, T, rfl, gT, _, semT, colT, engT, _, _, hcommon⟩ :=
      applyOp_pj_sound σ st defaultFuel ⟨⟨pred, [], none⟩, tb, false⟩ ta { backtrack := true, transfer := false }
        iha.good ihb.good rfl (by rw [ihb.engine, iha.engine]) nofun res hj
    -- unresolved common columns without a lower bound are resolved to the key columns both operands have
    obtain rfl : Cols.keys (Cols.inter tb.columns ta.columns) = common := Except.ok.inj hcommon
    refine ⟨gT, ?_, fun c => (colT c).trans (Cols.mem_union_congr iha.cols ihb.cols c), engT.trans iha.engine⟩
    show sem σ T = _
    rw [semT]
    show joinRows _ pred (sem σ ta) (sem σ tb) = _
    rw [iha.sem_eq, ihb.sem_eq]
    exact joinRows_congr_common _ _ _ _ _
      (Cols.keys_congr _ _ fun u => by rw [Cols.mem_inter, Cols.mem_inter, ihb.cols u, iha.cols u])
  | case15 name b t hb res hm ih =>
    cases h
    have ih := ih t hok hl hb
    obtain ⟨g, s1, s2, s3⟩ := materialize_good σ st defaultFuel t name res ih.good hnew hm
    exact ⟨g, s1.trans ih.sem_eq, fun c => (s2 c).trans (ih.cols c), s3.trans ih.engine⟩

theorem leavesOK_triv (eng : Engine) (b : SqlBuild) : b.LeavesOK NodeInv.triv eng := by
  induction b with
  | leaf => trivial
  | op _ _ ih | mat _ _ ih => exact ih
  | chain _ _ iha ihb | join _ _ _ iha ihb => exact ⟨iha, ihb⟩

theorem sql_build_invariant (σ : Leaves) (st : Store) (eng : Engine) (hk : eng.kind = .sql)
    (b : SqlBuild) (r : Rel) (hok : b.ok σ) (h : b.tree st eng = .ok r) : SqlBuilt NodeInv.triv σ eng b r :=
  sql_build_invariantI σ st eng hk (fun _ _ _ => trivial) b r hok (leavesOK_triv eng b) h

end DafRel
