/-
The Processor on a tree over several iteration engines (`Rel.MultiIter`): whenever processing succeeds, the returned
tree has the rows, columns and engine of the input, is executable, and the payload store is right for it - with the
registry of marker contents extended at the fresh allocation ids of the nodes the Processor created (`ProcMultiOK`).

The invariant has a one-state part (`TreeInv`: a tree in a state, carried to a later state by `TreeInv.move`) and a
two-state part (`ProcStep`, which composes); the induction over the recursion budget has one step lemma per class of
inner node, each assuming the statement for the subtrees (`MultiIH`).
-/
import DafRel.Lemmas.ProcIter
import DafRel.Lemmas.ProcBasics
import DafRel.Lemmas.Metadata
import DafRel.Lemmas.Apply
import DafRel.Lemmas.Dedup
import DafRel.Lemmas.SqlRunSound

namespace DafRel

variable {sq0 : SqlState}

/-- `reg'` agrees with `reg` below `n`: in its uses `n` is `nextTemp`, so on every allocation id handed out so far. -/
def RegExt (reg reg' : Nat → Option (List Row)) (n : Nat) : Prop := ∀ o, o < n → reg' o = reg o

theorem RegExt.refl (reg : Nat → Option (List Row)) (n : Nat) : RegExt reg reg n := fun _ _ => rfl

theorem RegExt.trans {r1 r2 r3 : Nat → Option (List Row)} {n m : Nat} (h1 : RegExt r1 r2 n) (h2 : RegExt r2 r3 m)
    (hnm : n ≤ m) : RegExt r1 r3 n := fun o ho => (h2 o (Nat.lt_of_lt_of_le ho hnm)).trans (h1 o ho)

def regSet (reg : Nat → Option (List Row)) (f : Nat) (rows : List Row) : Nat → Option (List Row) :=
  fun o => if o = f then some rows else reg o

theorem regSet_self (reg : Nat → Option (List Row)) (f : Nat) (rows : List Row) : regSet reg f rows f = some rows :=
  if_pos rfl

theorem regSet_ext (reg : Nat → Option (List Row)) (f : Nat) (rows : List Row) : RegExt reg (regSet reg f rows) f :=
  fun o ho => by simp [regSet, Nat.ne_of_lt ho]

theorem markersBelow_mono {n m : Nat} (hnm : n ≤ m) (t : Rel) (h : t.markersBelow n) : t.markersBelow m := by
  induction t with
  | leaf => trivial
  | unary _ _ _ ih => exact ih h
  | binary _ _ _ _ ihl ihr => exact ⟨ihl h.1, ihr h.2⟩
  | mat _ _ _ ih | transfer _ _ _ ih | select _ _ _ _ _ _ _ _ _ _ ih => exact ⟨Nat.lt_of_lt_of_le h.1 hnm, ih h.2⟩

theorem RegOK_ext (σ : Leaves) {reg reg' : Nat → Option (List Row)} {n : Nat} (he : RegExt reg reg' n) (t : Rel)
    (h : t.RegOK σ reg) (hb : t.markersBelow n) : t.RegOK σ reg' := by
  induction t with
  | leaf => trivial
  | unary _ _ _ ih => exact ih h hb
  | binary _ _ _ _ ihl ihr => exact ⟨ihl h.1 hb.1, ihr h.2 hb.2⟩
  | mat oid _ _ ih | transfer oid _ _ ih | select oid _ _ _ _ _ _ _ _ _ ih =>
    exact ⟨(he oid hb.1).trans h.1, ih h.2 hb.2⟩

theorem matOids_below {n : Nat} (t : Rel) (h : t.markersBelow n) (o : Nat) (ho : o ∈ t.matOids) : o < n := by
  induction t with
  | leaf => cases ho
  | unary _ _ _ ih => exact ih h ho
  | binary _ _ _ _ ihl ihr => exact (List.mem_append.mp ho).elim (ihl h.1) (ihr h.2)
  | mat _ _ _ ih => exact (List.mem_cons.mp ho).elim (fun e => e ▸ h.1) (ih h.2)
  | transfer _ _ _ ih | select _ _ _ _ _ _ _ _ _ _ ih => exact ih h.2 ho

/-- What the induction knows of a tree `x` considered in a state `s`: of the input at the start of a `process` call, of
the returned tree at its end.  `wf` .. `regOK`, `free`, `acyc`, `pos` do not mention `s`, and `below` ties the marker
ids of `x` to `s.nextTemp`; `store`, `sq`, `fresh`, `freshSt`, `tpos` do not mention `x`: `TreeInv.move` takes them from
the end state of a `ProcStep`, which relates two states and says nothing of a tree's shape. -/
structure TreeInv (σ : Leaves) (reg : Nat → Option (List Row)) (sq0 : SqlState) (x : Rel) (s : ProcState) : Prop where
  wf : x.WF
  truthful : x.Truthful σ
  kd : keyDetermined σ x = true
  regOK : x.RegOK σ reg
  below : x.markersBelow s.nextTemp
  store : StoreOK σ reg s.st
  sq : s.sq = sq0
  free : x.sqFree sq0
  fresh : ∀ o, s.nextTemp ≤ o → sq0.payload o = none
  /-- nothing is stored under allocation ids that have not been handed out yet -/
  freshSt : ∀ o, s.nextTemp ≤ o → s.st.payload o = none
  acyc : x.Acyclic
  /-- allocation ids are positive (0 marks a node a pure model function has just created) -/
  pos : ∀ o, o ∈ x.matOids → 0 < o
  tpos : 0 < s.nextTemp

/-- Payloads present after processing were there before, sit on a Materialization of the INPUT tree, or on a node the
Processor created (an allocation id it handed out: `n ≤ o`). -/
def PayNewP (t : Rel) (n : Nat) (s s' : ExecState) : Prop :=
  ∀ o, (s'.payload o).isSome = true → (s.payload o).isSome = true ∨ o ∈ t.matOids ∨ n ≤ o

theorem PayNewP.refl (t : Rel) (n : Nat) (s : ExecState) : PayNewP t n s s := fun _ h => Or.inl h

theorem PayNewP.none_of {t : Rel} {n o : Nat} {s s' : ExecState} (h : PayNewP t n s s') (h0 : s.payload o = none)
    (hn : o ∉ t.matOids) (ho : o < n) : s'.payload o = none :=
  Option.not_isSome_iff_eq_none.mp fun hs =>
    (h o hs).elim (Option.not_isSome_iff_eq_none.mpr h0) fun hh => hh.elim hn (Nat.not_le_of_lt ho)

/-- The shape of a tree the Processor returns, as far as `Materialization.simplify` looks: no Select marker at the
root or below unary operations, and a Transfer there leads to another engine. -/
def Rel.ProcShape : Rel → Prop
  | .unary _ t _ => Rel.ProcShape t
  | .transfer _ d t => d ≠ t.engine
  | .select .. => False
  | _ => True

/-- A Materialization the Processor hands back (at the root, or below unary operations that were re-applied as
no-ops) holds a payload. -/
def Rel.MatPay (s : ExecState) : Rel → Prop
  | .unary _ t _ => Rel.MatPay s t
  | .mat oid _ _ => (s.payload oid).isSome = true
  | _ => True

theorem MatPay.mono {s s' : ExecState} (hm : PayMono s s') (x : Rel) (h : x.MatPay s) : x.MatPay s' := by
  induction x with
  | unary _ _ _ ih => exact ih h
  | mat oid => exact hm oid h
  | _ => trivial

structure ProcMultiOK (σ : Leaves) (reg : Nat → Option (List Row)) (sq0 : SqlState) (t : Rel) (s : ProcState)
    (matAs : Option String) (res : Res) (b : Bool) (s' : ProcState) : Prop where
  inv : TreeInv σ reg sq0 (res.get t) s'
  exec : (res.get t).IterOKs s'.st
  mono : PayMono s.st s'.st
  sem_eq : sem σ (res.get t) = sem σ t
  cols : ∀ u, u ∈ (res.get t).columns ↔ u ∈ t.columns
  engine : (res.get t).engine = t.engine
  temp : s.nextTemp ≤ s'.nextTemp
  /-- the `was_materialized` flag is raised only when the returned relation holds a payload (looked up through
  payload-less markers) -/
  flag : b = true → (payloadThrough s' (res.get t)).isSome = true
  shape : (res.get t).ProcShape
  matpay : (res.get t).MatPay s'.st
  newp : PayNewP t s.nextTemp s.st s'.st
  mats : ∀ o, o ∈ (res.get t).matOids → o ∈ t.matOids ∨ s.nextTemp ≤ o
  keep : PayKeep s.st s'.st

/-- What a stretch of processing the tree `t`, begun in state `s`, has done to the state by `s'`.  The state half of
`ProcMultiOK`; it composes (`trans`), which the tree half does not. -/
structure ProcStep (σ : Leaves) (reg : Nat → Option (List Row)) (sq0 : SqlState) (t : Rel) (s s' : ProcState) :
    Prop where
  store : StoreOK σ reg s'.st
  sq : s'.sq = sq0
  temp : s.nextTemp ≤ s'.nextTemp
  freshSt : ∀ o, s'.nextTemp ≤ o → s'.st.payload o = none
  keep : PayKeep s.st s'.st
  newp : PayNewP t s.nextTemp s.st s'.st

section ProcStep
variable {σ : Leaves} {reg reg' : Nat → Option (List Row)} {t t' x : Rel} {s s' s1 s2 : ProcState}

theorem ProcMultiOK.step {matAs : Option String} {res : Res} {b : Bool} (P : ProcMultiOK σ reg sq0 t s matAs res b s') :
    ProcStep σ reg sq0 t s s' :=
  { store := P.inv.store, sq := P.inv.sq, temp := P.temp, freshSt := P.inv.freshSt, keep := P.keep, newp := P.newp }

/-- Seen from a tree that has the Materializations of `t` among its own. -/
theorem ProcStep.sub (S : ProcStep σ reg sq0 t s s') (h : ∀ o, o ∈ t.matOids → o ∈ t'.matOids) :
    ProcStep σ reg sq0 t' s s' :=
  { store := S.store, sq := S.sq, temp := S.temp, freshSt := S.freshSt, keep := S.keep,
    newp := fun o ho => (S.newp o ho).imp id (Or.imp (h o) id) }

/-- Two stretches in a row; the later registry counts. -/
theorem ProcStep.trans (S1 : ProcStep σ reg sq0 t s s1) (S2 : ProcStep σ reg' sq0 t' s1 s2)
    (h : ∀ o, o ∈ t'.matOids → o ∈ t.matOids ∨ s.nextTemp ≤ o) : ProcStep σ reg' sq0 t s s2 :=
  { store := S2.store, sq := S2.sq, temp := Nat.le_trans S1.temp S2.temp, freshSt := S2.freshSt,
    keep := S1.keep.trans S2.keep,
    newp := fun o ho =>
      (S2.newp o ho).elim (S1.newp o) fun h' =>
        Or.inr (h'.elim (h o) fun h'' => Or.inr (Nat.le_trans S1.temp h'')) }

/-- A hook (or `matPayload`) evaluates the processed tree `x` in its iteration engine. -/
theorem ProcStep.eval (S : ProcStep σ reg sq0 t s s1) (hb : x.markersBelow s1.nextTemp)
    (hx : ∀ o, o ∈ x.matOids → o ∈ t.matOids ∨ s.nextTemp ≤ o) (h2 : StoreOK σ reg s2.st) (hsq : s2.sq = s1.sq)
    (hnt : s2.nextTemp = s1.nextTemp) (hn : PayNew x s1.st s2.st) (hk : PayKeep s1.st s2.st) :
    ProcStep σ reg sq0 t s s2 := by
  refine S.trans
    { store := h2, sq := hsq.trans S.sq, temp := Nat.le_of_eq hnt.symm, freshSt := fun o ho => ?_, keep := hk,
      newp := fun o ho => (hn o ho).imp id Or.inl } hx
  -- the Materializations of `x` have ids that were handed out
  exact hn.none_of (S.freshSt o (hnt ▸ ho)) fun hm => Nat.not_le_of_lt (matOids_below x hb o hm) (hnt ▸ ho)

theorem ProcStep.draw (S : ProcStep σ reg sq0 t s s') :
    ProcStep σ reg sq0 t s { s' with nextTemp := s'.nextTemp + 1 } :=
  { store := S.store, sq := S.sq, temp := Nat.le_succ_of_le S.temp,
    freshSt := fun o ho => S.freshSt o (Nat.le_of_succ_le ho), keep := S.keep, newp := S.newp }

theorem ProcStep.attach (S : ProcStep σ reg sq0 t s s') {o : Nat} {it : Iterable} {rows : List Row}
    (ho : o < s'.nextTemp) (hn : s'.st.payload o = none) (hm : o ∈ t.matOids ∨ s.nextTemp ≤ o) (hi : ItOK it)
    (hr : reg o = some rows) (hrows : it.rows σ = .ok rows) : ProcStep σ reg sq0 t s (s'.attach o (.iter it)) := by
  refine { store := StoreOK.cons S.store o it rows hi hr hrows, sq := S.sq, temp := S.temp, freshSt := fun o' ho' => ?_,
           keep := S.keep.trans (PayKeep.cons s'.st o it s'.st.evals hn), newp := fun o' ho' => ?_ }
  · rw [attach_payload, if_neg (Nat.ne_of_lt (Nat.lt_of_lt_of_le ho ho'))]
    exact S.freshSt o' ho'
  · rw [attach_payload] at ho'
    by_cases h : o = o'
    · exact Or.inr (h ▸ hm)
    · rw [if_neg h] at ho'
      exact S.newp o' ho'

/-- The registry may change at ids that have not been handed out: nothing is stored there. -/
theorem ProcStep.ext (S : ProcStep σ reg sq0 t s s') (he : RegExt reg reg' s'.nextTemp) : ProcStep σ reg' sq0 t s s' := by
  refine { store := fun o it hp => ?_, sq := S.sq, temp := S.temp, freshSt := S.freshSt, keep := S.keep,
           newp := S.newp }
  have ho : o < s'.nextTemp := Nat.lt_of_not_le fun h => by rw [S.freshSt o h] at hp; cases hp
  rw [he o ho]
  exact S.store o it hp

/-- What is known of a tree stays known while the Processor works elsewhere. -/
theorem TreeInv.move {s0 : ProcState} (X : TreeInv σ reg sq0 x s0) (he : RegExt reg reg' s0.nextTemp)
    (S : ProcStep σ reg' sq0 t s s') (hn : s0.nextTemp ≤ s'.nextTemp) : TreeInv σ reg' sq0 x s' :=
  { wf := X.wf, truthful := X.truthful, kd := X.kd, regOK := RegOK_ext σ he x X.regOK X.below,
    below := markersBelow_mono hn x X.below, store := S.store, sq := S.sq, free := X.free,
    fresh := fun o ho => X.fresh o (Nat.le_trans hn ho), freshSt := S.freshSt, acyc := X.acyc, pos := X.pos,
    tpos := Nat.lt_of_lt_of_le X.tpos hn }

/-- The end of the Transfer case: the payload `it` goes to a NEW Transfer node, under a fresh allocation id, over the
processed target `x` (`X`: what is known of the input's Transfer with `x` in place of its target). -/
theorem ProcStep.newTransfer {oid : Nat} {dest : Engine} {target : Rel} {it : Iterable}
    (S : ProcStep σ reg sq0 (.transfer oid dest target) s s2) (X : TreeInv σ reg sq0 (.transfer oid dest x) s2)
    (hi : ItOK it) (hrows : it.rows σ = .ok (sem σ x)) (hsem : sem σ x = sem σ target)
    (hcols : ∀ u, u ∈ x.columns ↔ u ∈ target.columns) (hne : dest ≠ x.engine)
    (hmats : ∀ o, o ∈ x.matOids → o ∈ target.matOids ∨ s.nextTemp ≤ o) (matAs : Option String) :
    ProcMultiOK σ (regSet reg s2.nextTemp (sem σ x)) sq0 (.transfer oid dest target) s matAs
      (.new (.transfer s2.nextTemp dest x)) matAs.isSome
      (({ s2 with nextTemp := s2.nextTemp + 1 } : ProcState).attach s2.nextTemp (.iter it)) := by
  -- the rows are registered under the next id, the id is drawn, the payload attached
  have S' := (S.ext (regSet_ext reg _ (sem σ x))).draw.attach (Nat.lt_succ_self _) (S.freshSt _ (Nat.le_refl _))
    (Or.inr S.temp) hi (regSet_self ..) hrows
  have Y := X.move (regSet_ext _ _ _) S' (Nat.le_succ _)
  exact { inv := { Y with regOK := ⟨regSet_self .., Y.regOK.2⟩, below := ⟨Nat.lt_succ_self _, Y.below.2⟩,
                          free := ⟨X.fresh _ (Nat.le_refl _), Y.free.2⟩ },
          exec := Or.inl (attach_isSome ..), mono := S'.keep.mono, sem_eq := hsem, cols := hcols, engine := rfl,
          temp := S'.temp, flag := fun _ => payloadThrough_isSome _ _ (payloadOf_transfer_attach _ _ _ _ _),
          shape := hne, matpay := trivial, newp := S'.newp, mats := hmats, keep := S'.keep }

end ProcStep

/-- The `transfer` hook out of a SQL engine conforms, compiles and runs the source; whenever that succeeds, the payload
handed back is the row sequence of the direct evaluation of the source (C17, C02). -/
theorem hookTransfer_sql (σ : Leaves) (x : Rel) (dest : Engine) (matAs : Option String) (s : ProcState)
    (hd : dest.kind = .iter) (hk : x.engine.kind = .sql) (hwf : x.WF) (htr : x.Truthful σ) (hraw : x.RawSql)
    (hF : x.Faithful s.sq s.sq.tables σ) (h0 : s.sq.payload 0 = none)
    (hready : ∀ c, conform s.store defaultFuel x = .ok c → (c.get x).structReady s.sq = true)
    (p : AnyPayload) (s' : ProcState) (h : hookTransfer σ x dest matAs s = (.ok p, s')) :
    p = .iter (.seq (sem σ x)) ∧ s'.st = s.st ∧ s'.sq = s.sq ∧ s'.nextTemp = s.nextTemp := by
  have gI : Good (payInv s.sq s.sq.tables σ h0) σ x :=
    raw_goodI σ x hwf htr hraw (atomsOK_of_faithful s.sq s.sq.tables σ h0 x hraw hF)
  have h : (hookTransfer σ x dest matAs).run.run s = (.ok p, s') := h
  unfold hookTransfer at h
  rw [run_bind, run_modify, bindRun_ok, run_bind] at h
  obtain ⟨rows, s1, he, h⟩ := bindRun_ok_inv h
  rw [wrapRows_iter _ _ _ _ _ hd] at h
  obtain ⟨c, q, c1, hc, hq, hdup, hrows, hst, hsq, hnt⟩ := evalSingle_sql_inv σ x _ s1 rows hk he
  have gc := ((treeBuild_sound σ _ defaultFuel).conform x c gI hc).1
  have hsem : rows = sem σ x :=
    hrows.trans (conformed_compiled_rows σ s.sq _ x c q c1 gI hc (hready c hc) gc.faithful hq hdup)
  cases h
  exact ⟨by rw [hsem], hst, hsq, hnt⟩

/-- `IterOKs`, not `IterOK`: the source may contain processed Transfers out of a database, which hold payloads. -/
theorem hookTransfer_iter (σ : Leaves) (reg : Nat → Option (List Row)) (t : Rel) (dest : Engine)
    (matAs : Option String) (s : ProcState) (hd : dest.kind = .iter) (hk : t.engine.kind = .iter)
    (hio : t.IterOKs s.st) (hwf : t.WF) (htr : t.Truthful σ) (hkd : keyDetermined σ t = true) (hreg : t.RegOK σ reg)
    (hs : StoreOK σ reg s.st) :
    ∃ s', (hookTransfer σ t dest matAs).run.run s = (.ok (.iter (.seq (sem σ t))), s') ∧ StoreOK σ reg s'.st ∧
      s'.sq = s.sq ∧ s'.nextTemp = s.nextTemp ∧ PayMono s.st s'.st ∧ PayNew t s.st s'.st ∧ PayKeep s.st s'.st := by
  obtain ⟨s', he, P⟩ := evalSingle_iter σ reg t
    { s with hooks := s.hooks ++
      [s!"<transfer {t.show (showPay s)} e{dest.id} {matAs.getD "-"} triv={showBool t.isTrivial}>"] }
    hk hio hwf htr hkd hreg hs
  refine ⟨s', ?_, P⟩
  unfold hookTransfer
  rw [run_bind, run_modify, bindRun_ok, run_bind, he, bindRun_ok, wrapRows_iter _ _ _ _ _ hd]

theorem MultiIter.kind (t : Rel) (h : t.MultiIter) : t.engine.kind = .iter := by
  induction t with
  | leaf | mat | transfer => exact h.1
  | unary _ _ _ ih => exact ih h.1
  | binary _ _ _ _ ihl => exact ihl h.1
  | select => cases h

theorem plainIter_multiIter {e : Engine} (hek : e.kind = .iter) (t : Rel) (hp : t.PlainIter e) (hio : t.IterOK) :
    t.MultiIter := by
  induction t with
  | leaf => exact ⟨(show _ = e from hp) ▸ hek, hio⟩
  | unary _ _ _ ih => exact ⟨ih hp hio.1, hio.2⟩
  | binary _ _ _ _ ihl ihr => exact ⟨ihl hp.1 hio.1, ihr hp.2.1 hio.2.1, hio.2.2⟩
  | mat _ _ t ih => exact ⟨PlainIter.engine t hp ▸ hek, Or.inr (ih hp hio)⟩
  | transfer | select => cases hp

/-- Re-applying the operation of an existing node to the processed target (`operation.apply(new_target)` inside one
iteration engine): the operation is dropped as a no-op or goes through `_finish_apply`, which only adds and removes
unary nodes - so everything that looks through unary nodes carries over from the processed target. -/
theorem reapply_iter {σ : Leaves} {reg : Nat → Option (List Row)} {op : UOp} {target x : Rel} {c : Cols}
    {s s1 : ProcState} {fl : Bool} {r : Res} (matAs : Option String)
    (hnid : op.isIdentity = false) (har : op.arityOk = true) (hwf : (Rel.unary op target c).WF)
    (hkd : keyDetermined σ (Rel.unary op target c) = true) (hk : target.engine.kind = .iter)
    (P : ProcMultiOK σ reg sq0 target s none (.new x) fl s1)
    (h : applyOp s1.store defaultFuel (.u op) x {} = .ok r) :
    ProcMultiOK σ reg sq0 (.unary op target c) s matAs (.new (r.get x)) false s1 := by
  have X : TreeInv σ reg sq0 x s1 := P.inv
  have hcols : ∀ u, u ∈ x.columns ↔ u ∈ target.columns := P.cols
  have hsem : sem σ x = sem σ target := P.sem_eq
  have hkx : x.engine.kind = .iter := (show x.engine = target.engine from P.engine) ▸ hk
  obtain ⟨-, hc, -⟩ := hwf
  rw [defaultFuel_eq] at h
  have F := (applyOp_iter_sound σ s1.store _ op x r hkx X.wf X.truthful h).of_same hsem hcols P.engine
  subst hc
  rcases applyOp_iter_inv s1.store _ op x r hkx h with ⟨-, rfl⟩ | ⟨-, -, hf⟩
  · exact { inv := X, exec := P.exec, mono := P.mono, sem_eq := F.sem_eq, cols := F.cols, engine := F.engine,
            temp := P.temp, flag := nofun, shape := P.shape, matpay := P.matpay, newp := P.newp, mats := P.mats,
            keep := P.keep }
  · have hkd' : keyDetermined σ (r.get x) = true :=
      finishApply_keyDetermined σ x op r X.kd (fun hd => by
        obtain rfl : op = .dedup := by cases op <;> first | rfl | cases hd
        rw [rowsKeyDetermined_congr _ _ hcols, hsem]
        exact (Bool.and_eq_true_iff.mp hkd).2) hf
    obtain ⟨hreg, hbelow, hfree, hacyc, hmo, hsh, hmp⟩ :=
      finishApply_keeps (fun y => y.RegOK σ reg ∧ y.markersBelow s1.nextTemp ∧ y.sqFree sq0 ∧ y.Acyclic ∧
          (∀ o, o ∈ y.matOids → o ∈ x.matOids) ∧ y.ProcShape ∧ y.MatPay s1.st)
        (fun _ _ _ hp => hp) (fun _ _ _ hp => hp) x op r
        ⟨X.regOK, X.below, X.free, X.acyc, fun _ h => h, P.shape, P.matpay⟩ hf
    exact { inv := { X with wf := F.wf, truthful := F.truthful, kd := hkd', regOK := hreg, below := hbelow,
                            free := hfree, acyc := hacyc, pos := fun o ho => X.pos o (hmo o ho) },
            exec := finishApply_pres (fun y => y.IterOKs s1.st) UOp.execOK UOp.execOK (fun _ _ _ hp => ⟨hp.1, hp.2⟩)
              (fun _ _ _ hp hq _ => ⟨hp, hq⟩) simplify_execOK x op r P.exec ⟨hnid, har⟩ hf,
            mono := P.mono, sem_eq := F.sem_eq, cols := F.cols, engine := F.engine, temp := P.temp, flag := nofun,
            shape := hsh, matpay := hmp, newp := P.newp, mats := fun o ho => P.mats o (hmo o ho), keep := P.keep }

/-- The statement of `process_multi_iter` for one tree and one recursion budget: what the step lemmas assume of the
subtrees and deliver for the node. -/
abbrev MultiIH (σ : Leaves) (sq0 : SqlState) (t : Rel) (fuel : Nat) : Prop :=
  ∀ (matAs : Option String) (s : ProcState) (reg : Nat → Option (List Row)),
    t.MultiIter → t.SqlSrcOK σ sq0 → TreeInv σ reg sq0 t s → t.size ≤ fuel →
    ∀ res b s', (processRec σ fuel t matAs).run.run s = (.ok (res, b), s') →
    ∃ reg', RegExt reg reg' s.nextTemp ∧ ProcMultiOK σ reg' sq0 t s matAs res b s'

theorem multi_cached {σ : Leaves} {reg : Nat → Option (List Row)} {t : Rel} {s s' : ProcState} {n : Nat}
    {matAs : Option String} {res : Res} {b : Bool} (T : TreeInv σ reg sq0 t s)
    (hc : (s.payloadOf t).isSome = true) (hx : t.IterOKs s.st) (hsh : t.ProcShape) (hmp : t.MatPay s.st)
    (h : (processRec σ (n + 1) t matAs).run.run s = (.ok (res, b), s')) :
    ∃ reg', RegExt reg reg' s.nextTemp ∧ ProcMultiOK σ reg' sq0 t s matAs res b s' := by
  rw [processRec_cached σ n _ matAs s hc] at h
  obtain ⟨rfl, rfl, rfl⟩ := ok_run_inj h
  exact ⟨reg, RegExt.refl _ _,
    { inv := T, exec := hx, mono := PayMono.refl _, sem_eq := rfl, cols := fun _ => Iff.rfl, engine := rfl,
      temp := Nat.le_refl _, flag := fun _ => payloadThrough_isSome _ _ hc, shape := hsh, matpay := hmp,
      newp := PayNewP.refl _ _ _, mats := fun _ h => Or.inl h, keep := PayKeep.refl _ }⟩

theorem multi_unary {σ : Leaves} {op : UOp} {target : Rel} {c : Cols} {n : Nat} (IH : MultiIH σ sq0 target n) :
    MultiIH σ sq0 (.unary op target c) (n + 1) := by
  intro matAs s reg hm hsql T hf res b s' h
  obtain ⟨hmt, hnid, har⟩ := hm
  have Tt : TreeInv σ reg sq0 target s :=
    { T with wf := T.wf.1, kd := (Bool.and_eq_true_iff.mp T.kd).1 }
  rw [processRec_unary] at h
  obtain ⟨⟨nt, fl⟩, s1, hr0, h⟩ := bindRun_ok_inv h
  obtain ⟨reg1, hext, P⟩ := IH none s reg hmt hsql Tt (Nat.le_of_succ_le_succ hf) nt fl s1 hr0
  cases nt with
  | same =>
    obtain ⟨rfl, rfl, rfl⟩ := ok_run_inj h
    exact ⟨reg1, hext,
      { inv := T.move hext P.step P.temp, exec := ⟨P.exec, hnid, har⟩, mono := P.mono, sem_eq := rfl,
        cols := fun _ => Iff.rfl, engine := rfl, temp := P.temp, flag := nofun, shape := P.shape, matpay := P.matpay,
        newp := P.newp, mats := fun _ h => Or.inl h, keep := P.keep }⟩
  | new t' =>
    obtain ⟨r, ha, h⟩ := bindRun_except_inv h
    obtain ⟨rfl, rfl, rfl⟩ := ok_run_inj h
    exact ⟨reg1, hext, reapply_iter matAs hnid har T.wf T.kd (MultiIter.kind target hmt) P ha⟩

theorem multi_binary {σ : Leaves} {op : BOp} {l r : Rel} {c : Cols} {n : Nat} (IHl : MultiIH σ sq0 l n)
    (IHr : MultiIH σ sq0 r n) : MultiIH σ sq0 (.binary op l r c) (n + 1) := by
  intro matAs s reg hm hsql T hf res b s' h
  obtain ⟨hml, hmr, heng, hop⟩ := hm
  cases op with
  | join j => cases hop
  | ignoreOne bb => cases hop
  | chain =>
    have hkd := Bool.and_eq_true_iff.mp T.kd
    obtain ⟨hwl, hwr, hcc, hcols⟩ := T.wf
    have hsz : l.size ≤ n ∧ r.size ≤ n := by simp only [Rel.size] at hf; omega
    have hinL : ∀ o, o ∈ l.matOids → o ∈ (Rel.binary .chain l r c).matOids := fun _ => List.mem_append_left _
    have hinR : ∀ o, o ∈ r.matOids → o ∈ (Rel.binary .chain l r c).matOids := fun _ => List.mem_append_right _
    rw [processRec_binary] at h
    simp only [Bool.true_and, beq_iff_eq] at h
    obtain ⟨⟨nl, lp⟩, s1, hr0, h⟩ := bindRun_ok_inv h
    obtain ⟨reg1, hext1, P1⟩ := IHl none s reg hml hsql.1
      { T with wf := hwl, truthful := T.truthful.1, kd := hkd.1, regOK := T.regOK.1, below := T.below.1,
               free := T.free.1, acyc := T.acyc.1, pos := fun o ho => T.pos o (hinL o ho) }
      hsz.1 nl lp s1 hr0
    have Tm := T.move hext1 P1.step P1.temp
    have Tr : TreeInv σ reg1 sq0 r s1 :=
      { Tm with wf := hwr, truthful := T.truthful.2, kd := hkd.2, regOK := Tm.regOK.2, below := Tm.below.2,
                free := T.free.2, acyc := T.acyc.2, pos := fun o ho => T.pos o (hinR o ho) }
    obtain ⟨⟨nr, rp⟩, s2, hq0, h⟩ := bindRun_ok_inv h
    obtain ⟨reg2, hext2, P2⟩ := IHr none s1 reg1 hmr hsql.2 Tr hsz.2 nr rp s2 hq0
    have S : ProcStep σ reg2 sq0 (Rel.binary .chain l r c) s s2 :=
      (P1.step.sub hinL).trans P2.step fun o h => Or.inl (hinR o h)
    have hextAll : RegExt reg reg2 s.nextTemp := hext1.trans hext2 P1.temp
    have L' : TreeInv σ reg2 sq0 (nl.get l) s2 := P1.inv.move hext2 P2.step P2.temp
    have L'x : (nl.get l).IterOKs s2.st := Rel.IterOKs.mono P2.mono _ P1.exec
    have hmL : ∀ o, o ∈ (nl.get l).matOids → o ∈ (Rel.binary .chain l r c).matOids ∨ s.nextTemp ≤ o :=
      fun o ho => (P1.mats o ho).imp (hinL o) id
    have hmR : ∀ o, o ∈ (nr.get r).matOids → o ∈ (Rel.binary .chain l r c).matOids ∨ s.nextTemp ≤ o :=
      fun o ho => (P2.mats o ho).imp (hinR o) (Nat.le_trans P1.temp)
    by_cases hl0 : (nl.get l).maxRows = some 0
    · -- the left operand is statically empty: the right one is returned
      rw [if_pos hl0] at h
      obtain ⟨rfl, rfl, rfl⟩ := ok_run_inj h
      refine ⟨reg2, hextAll,
        { inv := P2.inv, exec := P2.exec, mono := S.keep.mono, sem_eq := ?_,
          cols := fun u => (P2.cols u).trans (hcc ▸ (hcols u).symm), engine := P2.engine.trans heng.symm,
          temp := S.temp, flag := P2.flag, shape := P2.shape, matpay := P2.matpay, newp := S.newp, mats := hmR,
          keep := S.keep }⟩
      show sem σ (nr.get r) = sem σ l ++ sem σ r
      rw [P2.sem_eq, ← P1.sem_eq, maxRows_zero_sound σ _ L'.wf L'.truthful hl0]
      rfl
    · rw [if_neg hl0] at h
      by_cases hr0' : (nr.get r).maxRows = some 0
      · rw [if_pos hr0'] at h
        obtain ⟨rfl, rfl, rfl⟩ := ok_run_inj h
        refine ⟨reg2, hextAll,
          { inv := L', exec := L'x, mono := S.keep.mono, sem_eq := ?_, cols := fun u => hcc ▸ P1.cols u,
            engine := P1.engine, temp := S.temp,
            flag := fun hh => payloadThrough_mono (P2.inv.sq.trans P1.inv.sq.symm) P2.mono _ (P1.flag hh),
            shape := P1.shape, matpay := MatPay.mono P2.mono _ P1.matpay, newp := S.newp, mats := hmL,
            keep := S.keep }⟩
        show sem σ (nl.get l) = sem σ l ++ sem σ r
        rw [P1.sem_eq, ← P2.sem_eq, maxRows_zero_sound σ _ P2.inv.wf P2.inv.truthful hr0', List.append_nil]
      · rw [if_neg hr0'] at h
        by_cases hss : (nl.isSame && nr.isSame) = true
        · rw [if_pos hss] at h
          obtain ⟨rfl, rfl, rfl⟩ := ok_run_inj h
          obtain ⟨rfl, rfl⟩ := (Bool.and_eq_true_iff.mp hss).imp Res.isSame_iff.mp Res.isSame_iff.mp
          exact ⟨reg2, hextAll,
            { inv := T.move hextAll S S.temp, exec := ⟨L'x, P2.exec, heng, trivial⟩, mono := S.keep.mono,
              sem_eq := rfl, cols := fun _ => Iff.rfl, engine := rfl, temp := S.temp, flag := nofun, shape := trivial,
              matpay := trivial, newp := S.newp, mats := fun _ h => Or.inl h, keep := S.keep }⟩
        · -- an operand is new: the chain is applied again
          rw [if_neg hss] at h
          obtain ⟨bb, hb, h⟩ := bindRun_except_inv h
          obtain ⟨rfl, rfl, rfl⟩ := ok_run_inj h
          obtain ⟨heq, hceq, hb⟩ := binaryApply_chain_iter_inv (P1.engine ▸ MultiIter.kind l hml) hb
          have R' := P2.inv
          rw [hb]
          refine ⟨reg2, hextAll,
            { inv :=
                { L' with wf := ⟨L'.wf, R'.wf, rfl, hceq⟩, truthful := ⟨L'.truthful, R'.truthful⟩,
                          kd := Bool.and_eq_true_iff.mpr ⟨L'.kd, R'.kd⟩, regOK := ⟨L'.regOK, R'.regOK⟩,
                          below := ⟨L'.below, R'.below⟩, free := ⟨L'.free, R'.free⟩, acyc := ⟨L'.acyc, R'.acyc⟩,
                          pos := fun o ho => (List.mem_append.mp ho).elim (L'.pos o) (R'.pos o) },
              exec := ⟨L'x, P2.exec, heq, trivial⟩, mono := S.keep.mono, sem_eq := ?_,
              cols := fun u => hcc ▸ P1.cols u, engine := P1.engine, temp := S.temp, flag := nofun, shape := trivial,
              matpay := trivial, newp := S.newp, mats := fun o ho => (List.mem_append.mp ho).elim (hmL o) (hmR o),
              keep := S.keep }⟩
          show sem σ (nl.get l) ++ sem σ (nr.get r) = sem σ l ++ sem σ r
          rw [P1.sem_eq, P2.sem_eq]

theorem multi_transfer {σ : Leaves} (h0 : sq0.payload 0 = none) {oid : Nat} {dest : Engine} {target : Rel} {n : Nat}
    (IH : MultiIH σ sq0 target n) : MultiIH σ sq0 (.transfer oid dest target) (n + 1) := by
  intro matAs s reg hm hsql T hf res b s' h
  obtain ⟨hdk, hne, hsrc⟩ := hm
  have hsz : target.size ≤ n := Nat.le_of_succ_le_succ hf
  cases hc : (s.payloadOf (Rel.transfer oid dest target)).isSome with
  | true =>
    have hpay : (s.st.payload oid).isSome = true := by
      rwa [payloadOf_transfer_free s _ _ _ (T.sq ▸ T.free.1)] at hc
    exact multi_cached T hc (Or.inl hpay) hne trivial h
  | false =>
    rw [processRec_transfer σ n oid dest target matAs s hc] at h
    -- the target is left alone: statically trivial, or evaluated by the hook inside a database
    have untouched : ∀ (s2 : ProcState) (it : Iterable), s2.st = s.st → s2.sq = s.sq → s2.nextTemp = s.nextTemp →
        ItOK it → it.rows σ = .ok (sem σ target) →
        (Except.ok (Res.new (Rel.transfer s2.nextTemp dest target), matAs.isSome),
            ({ s2 with nextTemp := s2.nextTemp + 1 } : ProcState).attach s2.nextTemp (.iter it)) =
          ((Except.ok (res, b) : Except Err (Res × Bool)), s') →
        ∃ reg', RegExt reg reg' s.nextTemp ∧ ProcMultiOK σ reg' sq0 (Rel.transfer oid dest target) s matAs res b s' := by
      intro s2 it hst hsq hnt hi hrows hh
      obtain ⟨rfl, rfl, rfl⟩ := ok_run_inj hh
      have S : ProcStep σ reg sq0 (Rel.transfer oid dest target) s s2 :=
        { store := hst ▸ T.store, sq := hsq.trans T.sq, temp := Nat.le_of_eq hnt.symm,
          freshSt := hst ▸ hnt ▸ T.freshSt, keep := hst ▸ PayKeep.refl _, newp := hst ▸ PayNewP.refl _ _ _ }
      exact ⟨_, hnt ▸ regSet_ext _ _ _, S.newTransfer (T.move (RegExt.refl _ _) S S.temp) hi hrows rfl (fun _ => Iff.rfl)
        hne (fun _ h => Or.inl h) matAs⟩
    by_cases ht : (Rel.transfer oid dest target).isTrivial = true
    · obtain ⟨it, hp, hi, hr⟩ := trivialPayload_spec σ _ dest s hdk T.wf T.truthful ht
      rw [if_pos ht, hp] at h
      exact untouched s it rfl rfl rfl hi hr h
    · rw [if_neg ht, bindRun_assoc] at h
      rcases hsrc with ⟨hki, hmt⟩ | ⟨hks, hraw, hleaf⟩
      · -- the source lives in an iteration engine: it is processed, then evaluated by the hook
        obtain ⟨⟨nt, fl⟩, s1, hr0, h⟩ := bindRun_ok_inv h
        obtain ⟨reg1, hext, P⟩ := IH none s reg hmt (hsql.2 hki)
          { T with regOK := T.regOK.2, below := T.below.2, free := T.free.2 hki } hsz nt fl s1 hr0
        obtain ⟨s2, hh, h2, hsq, hnt, -, hn2, hk2⟩ :=
          hookTransfer_iter σ reg1 _ dest matAs s1 hdk (P.engine ▸ hki) P.exec P.inv.wf P.inv.truthful P.inv.kd
            P.inv.regOK P.inv.store
        rw [bindRun_assoc, hh] at h
        obtain ⟨rfl, rfl, rfl⟩ := ok_run_inj h
        have S := (P.step.sub (t' := .transfer oid dest target) fun _ h => h).eval P.inv.below P.mats h2 hsq hnt hn2 hk2
        have Y := P.inv.move (RegExt.refl _ _) S (Nat.le_of_eq hnt.symm)
        exact ⟨_, hext.trans (regSet_ext _ _ _) S.temp,
          S.newTransfer (it := .seq (sem σ (nt.get target)))
            { Y with regOK := ⟨by rw [hext oid T.below.1, P.sem_eq]; exact T.regOK.1, Y.regOK⟩,
                     below := ⟨Nat.lt_of_lt_of_le T.below.1 S.temp, Y.below⟩, free := ⟨T.free.1, fun _ => Y.free⟩ }
            trivial rfl P.sem_eq P.cols (P.engine ▸ hne) P.mats matAs⟩
      · -- the source lives in a SQL engine: it is conformed, compiled and run by the hook
        obtain ⟨bb, hsame⟩ := processRec_settled σ s target n none (settled_of_sqlLeafTree s target hleaf) hsz
        obtain ⟨hFa, hRd⟩ := hsql.1 hks
        rw [hsame, bindRun_ok, bindRun_assoc] at h
        obtain ⟨p, s2, hh0, h⟩ := bindRun_ok_inv h
        obtain ⟨rfl, hst, hsq, hnt⟩ := hookTransfer_sql σ target dest matAs s hdk hks T.wf T.truthful hraw
          (T.sq ▸ hFa) (T.sq ▸ h0) (fun c hcc => T.sq ▸ hRd _ c hcc) p s2 hh0
        exact untouched s2 (.seq (sem σ target)) hst hsq hnt trivial rfl h

/-- `materialize` wraps a new processed target into a new Materialization unless `Materialization.simplify` finds it
locked (a leaf, or a Materialization that holds its payload); the payload - the locked relation's own one, or what
`matPayload` delivers - goes to the input's Materialization and to the new one. -/
theorem multi_mat {σ : Leaves} {oid : Nat} {name : String} {target : Rel} {n : Nat} (IH : MultiIH σ sq0 target n) :
    MultiIH σ sq0 (.mat oid name target) (n + 1) := by
  intro matAs s reg hm hsql T hf res b s' h
  obtain ⟨hek, hcase⟩ := hm
  have hmt : target.MultiIter := hcase.elim (fun h => plainIter_multiIter hek target h.1 h.2) id
  cases hc : (s.payloadOf (Rel.mat oid name target)).isSome with
  | true =>
    have hpay : (s.st.payload oid).isSome = true := by rwa [payloadOf_mat_free s _ _ _ (T.sq ▸ T.free.1)] at hc
    exact multi_cached T hc (Or.inl hpay) trivial hpay h
  | false =>
    rw [processRec_mat σ n oid name target matAs s hc] at h
    obtain ⟨⟨nt, fl⟩, s1, hr0, h⟩ := bindRun_ok_inv h
    have hin : ∀ o, o ∈ target.matOids → o ∈ (Rel.mat oid name target).matOids := fun _ => List.mem_cons_of_mem _
    obtain ⟨reg1, hext, P⟩ := IH (some name) s reg hmt hsql
      { T with regOK := T.regOK.2, below := T.below.2, free := T.free.2, acyc := T.acyc.2,
               pos := fun o ho => T.pos o (hin o ho) }
      (Nat.le_of_succ_le_succ hf) nt fl s1 hr0
    have hmats : ∀ o, o ∈ (nt.get target).matOids → o ∈ (Rel.mat oid name target).matOids ∨ s.nextTemp ≤ o :=
      fun o h => (P.mats o h).imp (hin o) id
    have S1 : ProcStep σ reg1 sq0 (Rel.mat oid name target) s s1 := P.step.sub hin
    have hoid : oid < s.nextTemp := T.below.1
    have hoid1 : oid < s1.nextTemp := Nat.lt_of_lt_of_le hoid P.temp
    have hregoid : reg1 oid = some (sem σ target) := (hext oid hoid).trans T.regOK.1
    -- the input's Materialization is not in the processed target and still holds nothing
    have hnotin : oid ∉ (nt.get target).matOids := fun hmem =>
      (P.mats oid hmem).elim T.acyc.1 (Nat.not_le_of_lt hoid)
    have hnone1 : s1.st.payload oid = none := P.newp.none_of (payloadOf_mat_none hc) T.acyc.1 hoid
    have hkx : (nt.get target).engine.kind = .iter := P.engine ▸ hek
    have hqx : (nt.get target).sqFree s1.sq := P.inv.sq ▸ P.inv.free
    have inOid : oid ∈ (Rel.mat oid name target).matOids ∨ s.nextTemp ≤ oid := Or.inl (List.mem_cons_self ..)
    cases nt with
    | same =>
      obtain ⟨it, s2, hmp, hi, hrows, h2, hsq, hnt, -, hn2, hk2⟩ := matPayload_spec σ reg1 oid name target
        target fl s1 hek hek P.exec P.inv.wf P.inv.truthful P.inv.kd P.inv.regOK P.inv.store P.inv.acyc
        hqx rfl T.wf T.truthful P.flag
      rw [bindRun_ok] at h
      obtain ⟨rfl, rfl, rfl⟩ := ok_run_inj ((congrArg (bindRun · _) hmp).symm.trans h)
      have S := (S1.eval P.inv.below hmats h2 hsq hnt hn2 hk2).attach (hnt ▸ hoid1)
        (hn2.none_of hnone1 hnotin) inOid hi hregoid hrows
      exact ⟨reg1, hext,
        { inv := T.move hext S S.temp, exec := Or.inl (attach_isSome ..), mono := S.keep.mono, sem_eq := rfl,
          cols := fun _ => Iff.rfl, engine := rfl, temp := S.temp,
          flag := fun _ => payloadThrough_isSome _ _ (payloadOf_mat_attach ..), shape := trivial,
          matpay := attach_isSome .., newp := S.newp, mats := fun _ h => Or.inl h, keep := S.keep }⟩
    | new x =>
      simp only [bindRun_ok, defaultFuel_eq, materialize_iter _ _ x name hkx, Res.get] at h
      -- `h`: in `s1` with the id drawn, `tempRoot` of `x` or of `.mat s1.nextTemp name x` (by `matSimplify x`), then attach
      by_cases hms : matSimplify x = true
      · -- the processed target is itself locked: nothing is added, its payload is handed to the input's Materialization
        obtain ⟨hpo, htr, hlt⟩ : (s1.payloadOf x).isSome = true ∧ (∀ s', (tempRoot x).run.run s' = (.ok x, s')) ∧
            ∀ s', lookThrough s' x = x := by
          cases x with
          | unary | binary => cases hms
          | select => exact absurd P.shape id
          | transfer o' d' t' => simp [matSimplify, show d' ≠ t'.engine from P.shape] at hms
          | leaf => exact ⟨(payloadOf_isSome s1 _).trans P.exec, fun _ => rfl, fun _ => rfl⟩
          | mat o nm t1 =>
            exact ⟨(payloadOf_mat_free s1 o nm t1 (P.inv.sq ▸ P.inv.free.1)).trans P.matpay,
              fun _ => run_tempRoot_mat _ _ _ _ (Nat.ne_of_gt (P.inv.pos o (List.mem_cons_self ..))), fun _ => rfl⟩
        obtain ⟨p, hp⟩ := Option.isSome_iff_exists.mp hpo
        obtain ⟨it0, rfl, hi0, hr0'⟩ := payloadThrough_rows σ reg1 s1 P.inv.store x hqx P.inv.regOK
          P.exec p (payloadThrough_some s1 p x hp)
        have hp' : ({ s1 with nextTemp := s1.nextTemp + 1 } : ProcState).payloadOf x = some (.iter it0) := hp
        simp only [hms, if_true, htr, bindRun_ok, hlt, hp'] at h
        -- `h`: the run returns `(.new x, true)` in `s1` with the id drawn and `it0` attached at `oid`
        obtain ⟨rfl, rfl, rfl⟩ := ok_run_inj h
        have S := S1.draw.attach (Nat.lt_succ_of_lt hoid1) hnone1 inOid hi0 hregoid (hr0'.trans (congrArg _ P.sem_eq))
        have hm1 : PayMono s1.st ((({ s1 with nextTemp := s1.nextTemp + 1 } : ProcState).attach oid
            (.iter it0)).st) := PayMono.cons s1.st oid it0 s1.st.evals
        exact ⟨reg1, hext,
          { inv := P.inv.move (RegExt.refl _ _) S (Nat.le_succ _), exec := Rel.IterOKs.mono hm1 _ P.exec,
            mono := S.keep.mono, sem_eq := P.sem_eq, cols := P.cols, engine := P.engine, temp := S.temp,
            flag := fun _ => payloadThrough_isSome _ _
              (payloadOf_mono (s := s1) (s' := ProcState.attach _ oid (.iter it0)) rfl hm1 x hpo),
            shape := P.shape, matpay := MatPay.mono hm1 _ P.matpay, newp := S.newp, mats := hmats, keep := S.keep }⟩
      · -- a new Materialization node, under the fresh id, over the processed target; it gets the payload as well
        have hfx : s1.nextTemp ∉ x.matOids := fun hh => Nat.lt_irrefl _ (matOids_below _ P.inv.below _ hh)
        have S2 : ProcStep σ (regSet reg1 s1.nextTemp (sem σ x)) sq0 (Rel.mat oid name target) s
            { s1 with nextTemp := s1.nextTemp + 1 } := (S1.ext (regSet_ext _ _ _)).draw
        have X2 := P.inv.move (regSet_ext reg1 _ (sem σ x)) S2 (Nat.le_succ _)
        obtain ⟨it, s2, hmp, hi, hrows, h2, hsq, hnt, -, hn2, hk2⟩ := matPayload_spec σ _ oid name target
          x fl { s1 with nextTemp := s1.nextTemp + 1 } hkx hek P.exec X2.wf X2.truthful X2.kd X2.regOK X2.store X2.acyc
          hqx P.sem_eq T.wf T.truthful
          (fun hh => (payloadThrough_temp s1 (s1.nextTemp + 1) x).symm ▸ P.flag hh)
        have hmp' : (matPayload σ (Rel.mat oid name target) target x name fl).run.run
            { s1 with nextTemp := s1.nextTemp + 1 } = _ := hmp
        have hnoneN : ({ s1 with nextTemp := s1.nextTemp + 1 } : ProcState).payloadOf (Rel.mat s1.nextTemp name x) =
            none := by
          simp [ProcState.payloadOf, Rel.oid, P.inv.freshSt _ (Nat.le_refl _), P.inv.sq, P.inv.fresh _ (Nat.le_refl _)]
        simp only [hms, Bool.false_eq_true, if_false, setMatOid_new, run_tempRoot_mat _ _ _ _ (Nat.ne_of_gt P.inv.tpos),
          bindRun_ok, lookThrough, hnoneN, hmp'] at h
        -- `h`: the run returns `(.new (.mat s1.nextTemp name x), true)` in `s2`, `it` attached at `oid` and `s1.nextTemp`
        obtain ⟨rfl, rfl, rfl⟩ := ok_run_inj h
        have hreg' : regSet reg1 s1.nextTemp (sem σ x) oid = some (sem σ target) :=
          (regSet_ext _ _ _ oid hoid1).trans hregoid
        have S3 := (S2.eval X2.below hmats h2 hsq hnt hn2 hk2).attach (hnt ▸ Nat.lt_succ_of_lt hoid1)
          (hn2.none_of hnone1 hnotin) inOid hi hreg' hrows
        have S := S3.attach (o := s1.nextTemp) (hnt ▸ Nat.lt_succ_self _)
          (by rw [attach_payload, if_neg (Nat.ne_of_lt hoid1)]
              exact hn2.none_of (P.inv.freshSt _ (Nat.le_refl _)) hfx)
          (Or.inr P.temp) hi (regSet_self ..) (hrows.trans (congrArg _ P.sem_eq.symm))
        have Y := P.inv.move (regSet_ext reg1 _ (sem σ x)) S (hnt ▸ Nat.le_succ _)
        exact ⟨_, hext.trans (regSet_ext _ _ _) P.temp,
          { inv :=
              { Y with regOK := ⟨regSet_self .., Y.regOK⟩, below := ⟨hnt ▸ Nat.lt_succ_self _, Y.below⟩,
                       free := ⟨P.inv.fresh _ (Nat.le_refl _), Y.free⟩, acyc := ⟨hfx, Y.acyc⟩,
                       pos := fun o ho => (List.mem_cons.mp ho).elim (fun h => h ▸ P.inv.tpos) (Y.pos o) },
            exec := Or.inl (attach_isSome ..), mono := S.keep.mono, sem_eq := P.sem_eq, cols := P.cols,
            engine := P.engine, temp := S.temp, flag := fun _ => payloadThrough_isSome _ _ (payloadOf_mat_attach ..),
            shape := trivial, matpay := attach_isSome .., newp := S.newp,
            mats := fun o ho => (List.mem_cons.mp ho).elim (fun h => Or.inr (h ▸ P.temp)) (hmats o), keep := S.keep }⟩

theorem process_multi_iter (σ : Leaves) (h0 : sq0.payload 0 = none) :
    (t : Rel) → (fuel : Nat) → MultiIH σ sq0 t fuel := by
  intro t fuel
  induction fuel generalizing t with
  | zero => exact fun _ _ _ _ _ _ hf => absurd hf (Nat.not_le_of_lt t.size_pos)
  | succ n ih =>
    cases t with
    | leaf =>
      intro matAs s reg hm hsql T hf res b s' h
      exact multi_cached T ((payloadOf_isSome s _).trans hm.2) hm.2 trivial trivial h
    | unary _ target => exact multi_unary (ih target)
    | binary _ l r => exact multi_binary (ih l) (ih r)
    | mat _ _ target => exact multi_mat (ih target)
    | transfer _ _ target => exact multi_transfer h0 (ih target)
    | select => intro _ _ _ hm; cases hm

theorem ProcMultiOK.executes {σ : Leaves} {reg : Nat → Option (List Row)} {t : Rel} {s s' : ProcState}
    {matAs : Option String} {res : Res} {b : Bool} (P : ProcMultiOK σ reg sq0 t s matAs res b s') :
    (res.get t).engine = t.engine ∧ (∀ u, u ∈ (res.get t).columns ↔ u ∈ t.columns) ∧
      ∃ it s'', DafRel.exec σ (res.get t).engine (res.get t) s'.st = .ok (it, s'') ∧ it.rows σ = .ok (sem σ t) := by
  obtain ⟨it, s'', a, bb, -⟩ := exec_correctS σ reg (res.get t) _ s'.st P.exec P.inv.wf P.inv.truthful P.inv.kd
    P.inv.regOK P.inv.store rfl
  exact ⟨P.engine, P.cols, it, s'', a, bb.trans (congrArg _ P.sem_eq)⟩

/-- A history of `process` calls on ONE input tree, each starting in the state the previous one left: the results
(returned tree and state) in order. -/
inductive ProcRuns (σ : Leaves) (fuel : Nat) (t : Rel) : ProcState → List (Res × ProcState) → Prop
  | nil (s : ProcState) : ProcRuns σ fuel t s []
  | cons {s s' : ProcState} {res : Res} {b : Bool} {rest : List (Res × ProcState)}
      (h : (processRec σ fuel t none).run.run s = (.ok (res, b), s')) (hr : ProcRuns σ fuel t s' rest) :
      ProcRuns σ fuel t s ((res, s') :: rest)

theorem TreeInv.after {σ : Leaves} {reg reg' : Nat → Option (List Row)} {t : Rel} {s s' : ProcState} {matAs : Option String}
    {res : Res} {b : Bool} (T : TreeInv σ reg sq0 t s) (he : RegExt reg reg' s.nextTemp)
    (P : ProcMultiOK σ reg' sq0 t s matAs res b s') : TreeInv σ reg' sq0 t s' :=
  T.move he P.step P.temp

theorem process_runs (σ : Leaves) (h0 : sq0.payload 0 = none) (t : Rel) (fuel : Nat) (hm : t.MultiIter)
    (hsql : t.SqlSrcOK σ sq0) (hf : t.size ≤ fuel) (runs : List (Res × ProcState)) (s : ProcState)
    (reg : Nat → Option (List Row)) (T : TreeInv σ reg sq0 t s) (hruns : ProcRuns σ fuel t s runs) :
    ∀ x, x ∈ runs → ∃ reg' s0 b, ProcStep σ reg' sq0 t s x.2 ∧ ProcMultiOK σ reg' sq0 t s0 none x.1 b x.2 := by
  induction hruns generalizing reg with
  | nil => nofun
  | @cons s s' res b rest h _ ih =>
    obtain ⟨reg', hext, P⟩ := process_multi_iter σ h0 t fuel none s reg hm hsql T hf res b s' h
    intro x hx
    rcases List.mem_cons.mp hx with rfl | hx
    · exact ⟨reg', s, b, P.step, P⟩
    · obtain ⟨reg'', s0, b', S, P'⟩ := ih reg' (T.after hext P) x hx
      exact ⟨reg'', s0, b', P.step.trans S fun _ h => Or.inl h, P'⟩

/-- `Props.C10.repeated_processing_is_write_once` is the first three conjuncts. -/
theorem process_repeatedly_write_once (σ : Leaves) (h0 : sq0.payload 0 = none) (t : Rel) (fuel : Nat) (hm : t.MultiIter)
    (hsql : t.SqlSrcOK σ sq0) (hf : t.size ≤ fuel) :
    (runs : List (Res × ProcState)) → (s : ProcState) → (reg : Nat → Option (List Row)) → TreeInv σ reg sq0 t s →
    ProcRuns σ fuel t s runs →
    ∀ x, x ∈ runs → PayKeep s.st x.2.st ∧ PayNewP t s.nextTemp s.st x.2.st ∧ x.2.sq = s.sq ∧ s.nextTemp ≤ x.2.nextTemp :=
  fun runs s reg T hr x hx =>
    let ⟨_, _, _, S, _⟩ := process_runs σ h0 t fuel hm hsql hf runs s reg T hr x hx
    ⟨S.keep, S.newp, S.sq.trans T.sq.symm, S.temp⟩

end DafRel
